-- model: tokens, tables, syntax
import JoinModel.Tok
import JoinModel.TableTypes
import JoinModel.Tables
import JoinModel.SpecTables
import JoinModel.Syntax
import JoinModel.Names
-- model: parser
import JoinModel.Determiner
import JoinModel.Parse
import JoinModel.ParseDriver
-- model: generator and printer
import JoinModel.ChainGen
import JoinModel.IR
import JoinModel.Templates
import JoinModel.Gen
import JoinModel.Print
-- model: semantics of the generated code, reference semantics, concrete worlds
import JoinModel.Sem
import JoinModel.Spec
import JoinModel.Concrete
-- lemmas: lists, tokens, determiners, parser
import JoinModel.Lemmas.ListFacts
import JoinModel.Lemmas.TokEq
import JoinModel.Lemmas.DetFacts
import JoinModel.Lemmas.ScanStep
import JoinModel.Lemmas.OptionParse
import JoinModel.Lemmas.ParseSpec
-- lemmas: generator, token conservation
import JoinModel.Lemmas.Nest
import JoinModel.Lemmas.GenFacts
import JoinModel.Lemmas.Caps
import JoinModel.Lemmas.TokCount
import JoinModel.Lemmas.Conserve
import JoinModel.Lemmas.ParseInit
import JoinModel.Lemmas.PrintCount
-- lemmas: reference semantics
import JoinModel.Lemmas.Basic
import JoinModel.Lemmas.Seq
import JoinModel.Lemmas.SpecStep
import JoinModel.Lemmas.SpecFacts
import JoinModel.Lemmas.TryFacts
import JoinModel.Lemmas.OrderFacts
import JoinModel.Lemmas.SpawnAgree
import JoinModel.Lemmas.Lin
import JoinModel.Lemmas.LinLoop
-- refinement
import JoinModel.Lemmas.StepEval
import JoinModel.Lemmas.CtxFacts
import JoinModel.Lemmas.Invariant
import JoinModel.Lemmas.StepRefine
import JoinModel.Lemmas.LoopRefine
import JoinModel.Refinement
import JoinModel.Lemmas.CapsOrder
-- async
import JoinModel.Async
import JoinModel.AsyncSpec
import JoinModel.AsyncConcrete
import JoinModel.AsyncTry
-- properties
import JoinModel.Props.Common
import JoinModel.Props.C01
import JoinModel.Props.C02
import JoinModel.Props.C03
import JoinModel.Props.C04
import JoinModel.Props.C05
import JoinModel.Props.C06
import JoinModel.Props.C07
import JoinModel.Props.C08
import JoinModel.Props.C09
import JoinModel.Props.C10
import JoinModel.Props.C11
import JoinModel.Props.C12
import JoinModel.Props.C13
import JoinModel.Props.C14
import JoinModel.Props.C15
import JoinModel.Props.C16
import JoinModel.Props.C17
import JoinModel.Props.C18
import JoinModel.Props.C19
import JoinModel.Props.C20
