/-
  The poll-level plan of an async macro invocation, built from the parsed program (the reference side of C09).  An async
  world is a `World` plus, for every chain, where its pending points are (`pend`): after how many of its events the chain
  awaits something that becomes ready only when a gate is opened.  The plan's canonical run is the sequential reference
  (`planLoop_canon`, `planRun_canon`), which the generated code equals (`sync_refines`) and which every schedule that
  ends with all gates open reproduces up to the order across branches (`Plan.run_complete`).
-/
import JoinModel.Async
import JoinModel.Lemmas.SpecFacts
namespace JoinModel

/-- cut an event list into segments: `(n, g)` = after `n` more events there is a pending point on gate `g` -/
def segmentBy : List (Nat × Nat) → Option Nat → List ε → List (Seg ε)
  | [], g, evs => [⟨g, evs⟩]
  | (n, g') :: cs, g, evs => ⟨g, evs.take n⟩ :: segmentBy cs (some g') (evs.drop n)

theorem segmentBy_flat (cs : List (Nat × Nat)) (g : Option Nat) (evs : List ε) :
    (segmentBy cs g evs).flatMap (·.evs) = evs := by
  induction cs generalizing g evs with
  | nil => simp [segmentBy]
  | cons c cs ih =>
    obtain ⟨n, g'⟩ := c
    simp [segmentBy, ih]

/-- pending points of the chain of branch `b` in step `k` (may depend on what the chain is applied to) -/
abbrev Pend := (b k : Nat) → Option Value → List Value → List (String × Value) → List (Nat × Nat)

def isPanicUR : UR Value → Bool
  | .panic _ => true
  | .ok _ => false

def urVals : List (UR Value) → List Value
  | [] => []
  | .ok v :: r => v :: urVals r
  | .panic _ :: r => urVals r

/-- the future of chain `(b, k)` -/
def taskOf (c : SpecCfg) (pend : Pend) (k : Nat) (vals : List (Option Value)) (vis : List (String × Value))
    (bc : Nat × List Value) : Task MEv (UR Value) :=
  let o := c.σ.chain bc.1 k (specPrev c vals bc.1 k) bc.2 vis
  ⟨segmentBy (pend bc.1 k (specPrev c vals bc.1 k) bc.2 vis) none ((chainEvents bc.1 k o).map .ev), o.res⟩

def finishVals (c : SpecCfg) (vals' : List (Option Value)) : Res Fin :=
  match allSome vals' with
  | none => .stuck
  | some finals => .ok (.vals (if c.kind.isTry then finals.filterMap payload? else finals))

def isFailUR : UR Value → Bool
  | .ok v => !v.isSucc
  | .panic _ => false

/-- when a step's `join!`/`try_join!` returns early: an operand panicked, or (`try_join!`) finished with a failure -/
def stopOf (c : SpecCfg) (o : UR Value) : Bool := isPanicUR o || (c.kind.isTry && isFailUR o)

def onStopOf (o : UR Value) : Res Fin :=
  match o with
  | .panic n => .panic (.user n)
  | .ok v => .ok (.failed v)

/-- The `async move` block of an async macro as a plan, from step `k` on: the events of the step's block captures
    (emitted when the step is entered) and the rest of the plan.  Try or not is in `stopOf c`: when a step ends early. -/
def planLoop (c : SpecCfg) (pend : Pend) : (rem : Nat) → (k : Nat) → List (Option Value) →
    List MEv × Plan MEv (UR Value) (Res Fin)
  | rem, k, vals =>
    let act := c.active k
    let vis := visibleSpec c.names vals
    let caps := specCapsAll c k vis act
    match caps.res with
    | .panic s => (caps.trace, .done (.panic s))
    | .stuck => (caps.trace, .done .stuck)
    | .ok capss =>
      let tasks := (act.zip capss).map (taskOf c pend k vals vis)
      match rem with
      | 0 => (caps.trace, .step (stopOf c) onStopOf tasks (fun _ => [])
                (fun outs => .done (finishVals c (updVals vals act (urVals outs)))))
      | rem' + 1 =>
        (caps.trace, .step (stopOf c) onStopOf tasks
          (fun outs => (planLoop c pend rem' (k + 1) (updVals vals act (urVals outs))).1)
          (fun outs => (planLoop c pend rem' (k + 1) (updVals vals act (urVals outs))).2))

/-! ### the shape of the loop's plan -/

def planRest (c : SpecCfg) (pend : Pend) : Nat → Nat → List (Option Value) → List MEv × Plan MEv (UR Value) (Res Fin)
  | 0, _, vals => ([], .done (finishVals c vals))
  | rem + 1, k, vals => planLoop c pend rem (k + 1) vals

theorem planLoop_eq (c : SpecCfg) (pend : Pend) (rem k : Nat) (vals : List (Option Value)) :
    planLoop c pend rem k vals =
      ((specCapsAll c k (visibleSpec c.names vals) (c.active k)).trace,
        match (specCapsAll c k (visibleSpec c.names vals) (c.active k)).res with
        | .panic s => .done (.panic s)
        | .stuck => .done .stuck
        | .ok capss =>
          .step (stopOf c) onStopOf (((c.active k).zip capss).map (taskOf c pend k vals (visibleSpec c.names vals)))
            (fun outs => (planRest c pend rem k (updVals vals (c.active k) (urVals outs))).1)
            (fun outs => (planRest c pend rem k (updVals vals (c.active k) (urVals outs))).2)) := by
  rw [planLoop]
  cases rem <;> cases (specCapsAll c k (visibleSpec c.names vals) (c.active k)).res <;> rfl

/-- Induction over the nodes the loop's plan is built from: the loop's end, a failed capture, a step over the chains of
    the active branches.  `M k x`: `x` is a prefixed plan standing at step `k`. -/
theorem planLoop_ind (c : SpecCfg) (pend : Pend) {M : Nat → List MEv × Plan MEv (UR Value) (Res Fin) → Prop}
    (fin : ∀ k r, M k ([], .done r))
    (halt : ∀ k vals r, M k ((specCapsAll c k (visibleSpec c.names vals) (c.active k)).trace, .done r))
    (step : ∀ k vals capss pre next, (∀ outs, M (k + 1) (pre outs, next outs)) →
      M k ((specCapsAll c k (visibleSpec c.names vals) (c.active k)).trace,
        .step (stopOf c) onStopOf (((c.active k).zip capss).map (taskOf c pend k vals (visibleSpec c.names vals))) pre next))
    (rem k : Nat) (vals : List (Option Value)) : M k (planLoop c pend rem k vals) := by
  induction rem generalizing k vals with
  | zero =>
    rw [planLoop_eq]
    split
    · exact halt ..
    · exact halt ..
    · exact step _ _ _ _ _ fun _ => fin ..
  | succ rem ih =>
    rw [planLoop_eq]
    split
    · exact halt ..
    · exact halt ..
    · exact step _ _ _ _ _ fun _ => ih ..

theorem taskOf_allEvs (c : SpecCfg) (pend : Pend) (k : Nat) (vals : List (Option Value)) (vis : List (String × Value))
    (bc : Nat × List Value) :
    (taskOf c pend k vals vis bc).allEvs =
      (chainEvents bc.1 k (c.σ.chain bc.1 k (specPrev c vals bc.1 k) bc.2 vis)).map .ev := by
  simp [taskOf, Task.allEvs, segmentBy_flat]

theorem taskOf_key (c : SpecCfg) (pend : Pend) (k : Nat) (vals : List (Option Value)) (vis : List (String × Value))
    (bc : Nat × List Value) : ∀ e ∈ (taskOf c pend k vals vis bc).allEvs, e.step = some k ∧ e.isCap = false := by
  intro e he
  rw [taskOf_allEvs] at he
  obtain ⟨ev, hev, rfl⟩ := List.mem_map.mp he
  exact chainEvents_step _ k _ ev hev

theorem taskOf_step (c : SpecCfg) (pend : Pend) (k : Nat) (vals : List (Option Value)) (vis : List (String × Value))
    (bc : Nat × List Value) : ∀ e ∈ (taskOf c pend k vals vis bc).allEvs, e.step = some k :=
  fun e he => (taskOf_key c pend k vals vis bc e he).1

theorem stepTasks_key (c : SpecCfg) (pend : Pend) (k : Nat) (vals : List (Option Value)) (vis : List (String × Value))
    (bcs : List (Nat × List Value)) :
    ∀ t ∈ bcs.map (taskOf c pend k vals vis), ∀ e ∈ t.allEvs, e.step = some k ∧ e.isCap = false := by
  intro t ht
  obtain ⟨bc, _, rfl⟩ := List.mem_map.mp ht
  exact taskOf_key c pend k vals vis bc

/-! ### canonical run of the plan = the sequential reference loop -/

/-- the canonical run of the prefixed plan `x` is the computation `m` -/
def CanonIs {ρ : Type} (x : List MEv × Plan MEv (UR Value) (Res ρ)) (m : M ρ) : Prop :=
  x.1 ++ x.2.canon.1 = m.trace ∧ x.2.canon.2 = m.res

/-- One step of the loop, canonically, against any reference loop of the shape captures; chains (`ch`); rest (`tail`):
    `specLoop` below, `specLoopAT` in C09. -/
theorem planLoop_canon_of {β : Type} (c : SpecCfg) (pend : Pend) (rem k : Nat) (vals : List (Option Value))
    (ch : List (List Value) → M β) (tail : β → M Fin)
    (h : ∀ capss,
      (firstStop (stopOf c) (((c.active k).zip capss).map (taskOf c pend k vals (visibleSpec c.names vals)))).1 = (ch capss).trace ∧
      match (firstStop (stopOf c) (((c.active k).zip capss).map (taskOf c pend k vals (visibleSpec c.names vals)))).2 with
      | some a => (ch capss).andThen tail = ⟨(ch capss).trace, onStopOf a⟩
      | none => ∃ b, (ch capss).res = .ok b ∧ CanonIs (planRest c pend rem k (updVals vals (c.active k)
          (urVals ((((c.active k).zip capss).map (taskOf c pend k vals (visibleSpec c.names vals))).map (·.out))))) (tail b)) :
    CanonIs (planLoop c pend rem k vals)
      ((specCapsAll c k (visibleSpec c.names vals) (c.active k)).andThen fun capss => (ch capss).andThen tail) := by
  rw [planLoop_eq]
  cases hc : (specCapsAll c k (visibleSpec c.names vals) (c.active k)).res with
  | panic s => simp [CanonIs, M.andThen, hc, Plan.canon]
  | stuck => simp [CanonIs, M.andThen, hc, Plan.canon]
  | ok capss =>
    obtain ⟨f1, f2⟩ := h capss
    -- unfolds the outer bind only (the first instance `rw` meets) to its `match` on `hc`; `(ch capss).andThen tail` stays folded
    rw [M.andThen, hc]
    simp only [CanonIs, Plan.canon]
    split at f2
    · rename_i a hfs
      -- `f2` (an equation of `M`-values) rewrites left to right: the folded bind becomes a record whose `.trace`/`.res` reduce
      simp [hfs, f2, f1]
    · rename_i hfs
      obtain ⟨b, hb, i1, i2⟩ := f2
      simp only [hfs, M.andThen, hb, f1]
      exact ⟨by rw [← i1]; simp [List.append_assoc], i2⟩

def taskM (t : Task MEv (UR Value)) : M Value := ⟨t.allEvs, t.out.toRes⟩

theorem map_taskM_taskOf (c : SpecCfg) (pend : Pend) (k : Nat) (vals : List (Option Value)) (vis : List (String × Value))
    (bcs : List (Nat × List Value)) : (bcs.map (taskOf c pend k vals vis)).map taskM = bcs.map (chainM c k vals vis) := by
  rw [List.map_map]
  exact List.map_congr_left fun bc _ => M.ext' (taskOf_allEvs c pend k vals vis bc) rfl

theorem firstStop_seq (ts : List (Task MEv (UR Value))) :
    (firstStop isPanicUR ts).1 = (M.seq (ts.map taskM)).trace ∧
    (match (firstStop isPanicUR ts).2 with
      | some (.panic n) => (M.seq (ts.map taskM)).res = .panic (.user n)
      | some (.ok _) => False
      | none => (M.seq (ts.map taskM)).res = .ok (urVals (ts.map (·.out)))) := by
  induction ts with
  | nil => exact ⟨rfl, rfl⟩
  | cons t ts ih =>
    obtain ⟨ih1, ih2⟩ := ih
    cases ho : t.out with
    | panic n => simp [firstStop, ho, isPanicUR, M.seq, taskM, M.andThen, UR.toRes]
    | ok v =>
      simp only [List.map_cons, firstStop, ho, isPanicUR, Bool.false_eq_true, if_false, M.seq, taskM, M.andThen, UR.toRes, ih1]
      -- the closing `M.ret` adds no event, but `andThen` shows that per outcome only
      refine ⟨by cases (M.seq (ts.map taskM)).res <;> simp [M.ret], ?_⟩
      -- on `(firstStop isPanicUR ts).2`, split in the goal too: a later panic; `some (.ok _)`, where `ih2 : False`; no stop
      split at ih2
      · rw [ih2]
      · exact ih2
      · rw [ih2]; rfl

/-- **Canonical schedule = sequential reference.**  For the non-try async macros (no OS threads, no `try` exit) the
    plan's canonical run — every gate open — produces exactly the events and the outcome of the reference step loop. -/
theorem planLoop_canon (c : SpecCfg) (pend : Pend) (hth : c.kind.threads = false) (htry : c.kind.isTry = false)
    (rem k : Nat) (vals : List (Option Value)) :
    (planLoop c pend rem k vals).1 ++ (planLoop c pend rem k vals).2.canon.1 = (specLoop c rem k vals).trace ∧
    (planLoop c pend rem k vals).2.canon.2 = (specLoop c rem k vals).res := by
  have hstop : stopOf c = isPanicUR := by funext o; simp [stopOf, htry]
  -- one step for both cases of `rem`: `planRest` and `specTail` take up the difference between the last step and the others
  have step : ∀ rem k vals,
      (∀ news, CanonIs (planRest c pend rem k (updVals vals (c.active k) news)) (specTail c rem k vals news)) →
      CanonIs (planLoop c pend rem k vals) (specLoop c rem k vals) := by
    intro rem k vals hrest
    rw [specLoop_eq, specStep, M.andThen_assoc]
    refine planLoop_canon_of c pend _ k vals _ _ fun capss => ?_
    obtain ⟨f1, f2⟩ := firstStop_seq (((c.active k).zip capss).map (taskOf c pend k vals (visibleSpec c.names vals)))
    rw [map_taskM_taskOf, ← specChainsSeq_eq_seq] at f1 f2
    simp only [specChains, hth, Bool.false_and, Bool.false_eq_true, if_false, hstop]
    refine ⟨f1, ?_⟩
    split <;> rename_i hfs <;> rw [hfs] at f2
    · rename_i a
      cases a with
      -- without `try` a step stops on a panic only
      | ok _ => exact absurd f2 id
      | panic n => simp only at f2; simp [M.andThen, f2, onStopOf]
    · exact ⟨_, f2, hrest _⟩
  induction rem generalizing k vals with
  | zero =>
    refine step 0 k vals fun news => ?_
    simp only [CanonIs, planRest, specTail, finishVals, htry, Plan.canon]
    cases allSome (updVals vals (c.active k) news) <;> simp [M.stuck, M.ret]
  | succ rem ih =>
    refine step _ k vals fun news => ?_
    simpa [CanonIs, planRest, specTail, htry] using ih (k + 1) _

/-! ### the handler: what runs after the last step -/

/-- pending points inside the handler's future (`then` / `and_then` handlers of async macros return a future that is
    awaited): after how many of its events it waits for which gate -/
abbrev PendH := List Value → List (Nat × Nat)

def handlerTask (c : SpecCfg) (pendH : PendH) (vs : List Value) : Task MEv (UR Value) :=
  ⟨segmentBy (pendH vs) none [.ev (.handlerCall vs)], c.σ.handlerCall vs⟩

/-- the macro's value when the step loop ended early -/
def stopMap : Res Fin → Res Value
  | .ok (.failed v) => .ok v
  | .ok (.vals _) => .stuck
  | .panic s => .panic s
  | .stuck => .stuck

def handlerPlan (c : SpecCfg) (pendH : PendH) (h : Option HKind) : Res Fin → List MEv × Plan MEv (UR Value) (Res Value)
  | .ok (.vals vs) =>
    match h with
    | none => ([], .done (.ok (if c.kind.isTry then .succ (mkTuple vs) else mkTuple vs)))
    | some hk =>
      ([], .step isPanicUR (fun o => match o with | .panic n => .panic (.user n) | .ok v => .ok v)
        [handlerTask c pendH vs] (fun _ => [])
        (fun outs => .done (match outs with
          | [.ok v] => .ok (match hk with | .map => .succ v | _ => v)
          | _ => .stuck)))
  | r => ([], .done (stopMap r))

/-- the handler definition, the step loop, the handler — as one `M` computation over a `SpecCfg` (`specRun` is this) -/
def specRunCfgL (loop : M Fin) (c : SpecCfg) (h : Option HKind) : M Value :=
  (match h with
    | some _ => (M.tell [.ev .handlerDef]).andThen fun _ => M.lift c.σ.handlerDef.toRes
    | none => M.ret ()).andThen fun _ =>
  loop.andThen fun f =>
  specHandle c h f

def specRunCfg (c : SpecCfg) (h : Option HKind) : M Value :=
  specRunCfgL (specLoop c (c.maxDepth - 1) 0 (List.replicate c.n none)) c h

/-- The whole `async move` block as a plan: the events emitted when it is entered (the handler definition, the block
    captures of step 0) and what follows. -/
def planRun (c : SpecCfg) (pend : Pend) (pendH : PendH) (h : Option HKind) : List MEv × Plan MEv (UR Value) (Res Value) :=
  let pl := planLoop c pend (c.maxDepth - 1) 0 (List.replicate c.n none)
  let b := pl.2.bind (handlerPlan c pendH h) stopMap
  match h with
  | none => (pl.1 ++ b.1, b.2)
  | some _ =>
    match c.σ.handlerDef with
    | .panic n => ([.ev .handlerDef], .done (.panic (.user n)))
    | .ok _ => ([.ev .handlerDef] ++ (pl.1 ++ b.1), b.2)

def StopRes (r : Res Fin) : Prop := (∃ n, r = .panic (.user n)) ∨ ∃ v, r = .ok (.failed v)

theorem planLoop_allStops (c : SpecCfg) (pend : Pend) (rem k : Nat) (vals : List (Option Value)) :
    (planLoop c pend rem k vals).2.AllStops StopRes :=
  planLoop_ind c pend (M := fun _ x => x.2.AllStops StopRes) (fun _ _ => .done _) (fun _ _ _ => .done _)
    (fun _ _ _ _ _ ih => .step _ _ _ _ _ (fun o => by cases o <;> simp [StopRes, onStopOf]) ih) rem k vals

theorem handlerPlan_stop (c : SpecCfg) (pendH : PendH) (h : Option HKind) (r : Res Fin) (hr : StopRes r) :
    handlerPlan c pendH h r = ([], .done (stopMap r)) := by
  rcases hr with ⟨n, rfl⟩ | ⟨v, rfl⟩ <;> rfl

theorem specHandle_call (c : SpecCfg) (hk : HKind) (vs : List Value) :
    specHandle c (some hk) (.vals vs) =
      (⟨[.ev (.handlerCall vs)], (c.σ.handlerCall vs).toRes⟩ : M Value).andThen fun v =>
        M.ret (match hk with | .map => .succ v | _ => v) := by
  have hcall : ((M.tell [.ev (.handlerCall vs)]).andThen fun _ => M.lift (c.σ.handlerCall vs).toRes) =
      ⟨[.ev (.handlerCall vs)], (c.σ.handlerCall vs).toRes⟩ := rfl
  cases hk <;> simp only [specHandle, hcall] <;> exact (M.andThen_ret _).symm

theorem handlerPlan_canon (c : SpecCfg) (pendH : PendH) (h : Option HKind) (f : Fin) :
    CanonIs (handlerPlan c pendH h (.ok f)) (specHandle c h f) := by
  cases f with
  | failed v => exact ⟨rfl, rfl⟩
  | vals vs =>
    cases h with
    | none => exact ⟨rfl, rfl⟩
    | some hk =>
      have hev : (handlerTask c pendH vs).allEvs = [.ev (.handlerCall vs)] := by simp [handlerTask, Task.allEvs, segmentBy_flat]
      have hout : (handlerTask c pendH vs).out = c.σ.handlerCall vs := rfl
      rw [specHandle_call]
      -- one operand that stops on a panic: its event, then its panic or the wrap of its value
      cases hc : c.σ.handlerCall vs <;>
        simp [CanonIs, handlerPlan, Plan.canon, firstStop, hout, hc, isPanicUR, hev, M.andThen, UR.toRes, M.ret]

theorem CanonIs.bind {ρ ρ' : Type} {x : List MEv × Plan MEv (UR Value) (Res ρ)} {m : M ρ} (hx : CanonIs x m)
    (k : Res ρ → List MEv × Plan MEv (UR Value) (Res ρ')) (sm : Res ρ → Res ρ') (f : ρ → M ρ') (P : Res ρ → Prop)
    (hP : x.2.AllStops P) (hstop : ∀ r, P r → k r = ([], .done (sm r)))
    (hok : ∀ a, CanonIs (k (.ok a)) (f a)) (hpanic : ∀ s, k (.panic s) = ([], .done (.panic s)))
    (hstuck : k .stuck = ([], .done .stuck)) :
    CanonIs (x.1 ++ (x.2.bind k sm).1, (x.2.bind k sm).2) (m.andThen f) := by
  obtain ⟨b1, b2⟩ := Plan.bind_canon P k sm hstop x.2 hP
  obtain ⟨l1, l2⟩ := hx
  simp only [CanonIs, List.append_assoc, b1, b2, l2, M.andThen]
  cases hres : m.res with
  | ok a => exact ⟨by simp [← l1, ← (hok a).1, List.append_assoc], (hok a).2⟩
  | panic s => simp [hpanic, Plan.canon, ← l1]
  | stuck => simp [hstuck, Plan.canon, ← l1]

theorem planRun_canon_gen (c : SpecCfg) (pend : Pend) (pendH : PendH) (h : Option HKind) (loop : M Fin)
    (hl : (planLoop c pend (c.maxDepth - 1) 0 (List.replicate c.n none)).1 ++
            (planLoop c pend (c.maxDepth - 1) 0 (List.replicate c.n none)).2.canon.1 = loop.trace ∧
          (planLoop c pend (c.maxDepth - 1) 0 (List.replicate c.n none)).2.canon.2 = loop.res) :
    (planRun c pend pendH h).1 ++ (planRun c pend pendH h).2.canon.1 = (specRunCfgL loop c h).trace ∧
    (planRun c pend pendH h).2.canon.2 = (specRunCfgL loop c h).res := by
  have hbody := CanonIs.bind hl (handlerPlan c pendH h) stopMap (specHandle c h) StopRes (planLoop_allStops c pend _ _ _)
    (handlerPlan_stop c pendH h) (handlerPlan_canon c pendH h) (fun _ => rfl) rfl
  cases h with
  | none => simpa [planRun, specRunCfgL, CanonIs, List.append_assoc] using hbody
  | some hk =>
    simp only [planRun, specRunCfgL]
    cases hd : c.σ.handlerDef with
    | panic n => simp [M.andThen, M.tell, M.lift, UR.toRes, Plan.canon]
    | ok u =>
      simp only [UR.toRes, M.andThen_assoc, M.lift_ok_andThen, M.tell_andThen_trace, M.tell_andThen_res]
      exact ⟨by simp [← hbody.1, List.append_assoc], hbody.2⟩

/-- **Canonical schedule = sequential reference, handler included.**  For the non-try async macros the canonical run of
    the whole block — handler definition, step loop, handler call with its awaited future — produces exactly the events
    and the outcome of the reference semantics `specRunCfg` (= `specRun`). -/
theorem planRun_canon (c : SpecCfg) (pend : Pend) (pendH : PendH) (h : Option HKind) (hth : c.kind.threads = false)
    (htry : c.kind.isTry = false) :
    (planRun c pend pendH h).1 ++ (planRun c pend pendH h).2.canon.1 = (specRunCfg c h).trace ∧
    (planRun c pend pendH h).2.canon.2 = (specRunCfg c h).res :=
  planRun_canon_gen c pend pendH h _ (planLoop_canon c pend hth htry (c.maxDepth - 1) 0 (List.replicate c.n none))

/-! ### every schedule: completion -/

theorem CanonIs.every_schedule {ρ : Type} {x : List MEv × Plan MEv (UR Value) (Res ρ)} {m : M ρ} (hc : CanonIs x m)
    (hns : x.2.NoStop) (gs : List Gates) :
    (x.2.run (gs ++ [allOpen])).2 = .done m.res ∧ (x.1 ++ (x.2.run (gs ++ [allOpen])).1).Perm m.trace := by
  obtain ⟨r1, r2⟩ := Plan.run_complete gs x.2 hns
  exact ⟨by rw [r1, hc.2], hc.1 ▸ r2.append_left _⟩

theorem planLoop_nostop_of (c : SpecCfg) (pend : Pend)
    (h : ∀ k vals vis bc, stopOf c (taskOf c pend k vals vis bc).out = false) (rem k : Nat) (vals : List (Option Value)) :
    (planLoop c pend rem k vals).2.NoStop :=
  planLoop_ind c pend (M := fun _ x => x.2.NoStop) (fun _ _ => .done _) (fun _ _ _ => .done _)
    (fun k vals _ _ _ ih => .step _ _ _ _ _ (fun t ht => by obtain ⟨bc, _, rfl⟩ := List.mem_map.mp ht; exact h ..) ih)
    rem k vals

theorem planRun_nostop (c : SpecCfg) (pend : Pend) (pendH : PendH) (h : Option HKind)
    (hl : (planLoop c pend (c.maxDepth - 1) 0 (List.replicate c.n none)).2.NoStop)
    (hh : ∀ r, (handlerPlan c pendH h r).2.NoStop) : (planRun c pend pendH h).2.NoStop := by
  have hb := Plan.bind_nostop (handlerPlan c pendH h) stopMap hh _ hl
  unfold planRun
  split
  · exact hb
  · split
    · exact .done _
    · exact hb

/-! ### every schedule: a step with a stopping chain is never passed -/

/-- `kont`, `sm`: whatever follows the loop (in `planRun`, the handler). -/
theorem planLoop_stopper (c : SpecCfg) (pend : Pend) (rem k : Nat) (vals : List (Option Value))
    (capss : List (List Value))
    (hc : (specCapsAll c k (visibleSpec c.names vals) (c.active k)).res = .ok capss)
    (bc : Nat × List Value) (hbc : bc ∈ (c.active k).zip capss)
    (hstop : stopOf c (taskOf c pend k vals (visibleSpec c.names vals) bc).out = true)
    {ρ' : Type} (kont : Res Fin → List MEv × Plan MEv (UR Value) ρ') (sm : Res Fin → ρ') (gs : List Gates) :
    (∀ e ∈ (((planLoop c pend rem k vals).2.bind kont sm).2.run gs).1, e.step = some k) ∧
    ((((planLoop c pend rem k vals).2.bind kont sm).2.run gs).2.isDone = false ∨
     ∃ o, (((planLoop c pend rem k vals).2.bind kont sm).2.run gs).2 = .done (sm (onStopOf o)) ∧ stopOf c o = true ∧
       o ∈ ((c.active k).zip capss).map (fun bc => (taskOf c pend k vals (visibleSpec c.names vals) bc).out)) := by
  rw [planLoop_eq]
  simp only [hc, Plan.bind]
  obtain ⟨h1, h2⟩ := Plan.run_stopper (fun e : MEv => e.step = some k) (stopOf c) (fun a => sm (onStopOf a)) _ _
    ((((c.active k).zip capss).map (taskOf c pend k vals (visibleSpec c.names vals))).map (·.out))
    ⟨_, List.mem_map_of_mem (List.mem_map_of_mem hbc), hstop⟩ gs _ rfl
    (fun t ht e he => (stepTasks_key c pend k vals _ _ t ht e he).1)
  refine ⟨h1, h2.imp (fun ⟨ts', h⟩ => by rw [h]; rfl) fun ⟨a, h2, h3, h4⟩ => ⟨a, h2, h3, by simpa [List.map_map] using h4⟩⟩

/-! ### the step loop as a leveled plan: the barrier under every schedule -/

def stepLevel (e : MEv) : Nat := e.step.getD 0

/-- finer level: the block captures of step `k` (`2k`) come before its chains (`2k + 1`) -/
def keyLevel (e : MEv) : Nat := e.step.getD 0 * 2 + (if e.isCap then 0 else 1)

theorem levels_eq {e : MEv} {k : Nat} {b : Bool} (h : e.step = some k ∧ e.isCap = b) :
    stepLevel e = k ∧ keyLevel e = 2 * k + (if b then 0 else 1) ∧ e.step.isSome = true := by
  rw [stepLevel, keyLevel, h.1, h.2, Nat.mul_comm]
  exact ⟨rfl, rfl, rfl⟩

/-- By step number: the chains of step `k` at `k`, the captures on entering step `k + 1` at `k + 1`.  By key: the chains
    of step `k` at `2k + 1`, the captures of step `k + 1` at `2k + 2`, its chains at `2k + 3`. -/
theorem planLoop_leveled (c : SpecCfg) (pend : Pend) : ∀ (rem k : Nat) (vals : List (Option Value)),
    (∀ e ∈ (planLoop c pend rem k vals).1, e.step = some k ∧ e.isCap = true) ∧
    (planLoop c pend rem k vals).2.Leveled stepLevel k ∧
    (planLoop c pend rem k vals).2.Leveled keyLevel (2 * k + 1) ∧
    (planLoop c pend rem k vals).2.EvAll (fun e => e.step.isSome = true) := by
  refine planLoop_ind c pend (M := fun k x => (∀ e ∈ x.1, e.step = some k ∧ e.isCap = true) ∧ x.2.Leveled stepLevel k ∧
      x.2.Leveled keyLevel (2 * k + 1) ∧ x.2.EvAll (fun e => e.step.isSome = true))
    (fun _ _ => ⟨nofun, .done _ _, .done _ _, .done _⟩)
    (fun k vals _ => ⟨specCapsAll_step c k _ _, .done _ _, .done _ _, .done _⟩) ?_
  intro k vals capss pre next ih
  have ht := fun t h e he => levels_eq (stepTasks_key c pend k vals (visibleSpec c.names vals) ((c.active k).zip capss) t h e he)
  have hp := fun outs e he => levels_eq ((ih outs).1 e he)
  exact ⟨specCapsAll_step c k _ _,
    .step k (k + 1) (k + 1) (by omega) (Nat.le_refl _) _ _ _ _ _ (fun t h e he => (ht t h e he).1)
      (fun outs e he => (hp outs e he).1) fun outs => (ih outs).2.1,
    .step _ (2 * (k + 1)) (2 * (k + 1) + 1) (by omega) (by omega) _ _ _ _ _ (fun t h e he => (ht t h e he).2.1)
      (fun outs e he => (hp outs e he).2.1) fun outs => (ih outs).2.2.1,
    .step _ _ _ _ _ (fun t h e he => (ht t h e he).2.2) (fun outs e he => (hp outs e he).2.2) fun outs => (ih outs).2.2.2⟩

/-- **Every schedule, all worlds**: along everything the block emits from step `k` on — the captures on entering the
    step, then any sequence of polls — step numbers and keys never decrease, and every event carries a step number. -/
theorem planLoop_run_rising (c : SpecCfg) (pend : Pend) (rem k : Nat) (vals : List (Option Value)) (gs : List Gates) :
    (∃ m, Rising stepLevel k ((planLoop c pend rem k vals).1 ++ ((planLoop c pend rem k vals).2.run gs).1) m) ∧
    (∃ m, Rising keyLevel (2 * k) ((planLoop c pend rem k vals).1 ++ ((planLoop c pend rem k vals).2.run gs).1) m) ∧
    ∀ e ∈ (planLoop c pend rem k vals).1 ++ ((planLoop c pend rem k vals).2.run gs).1, e.step.isSome = true := by
  obtain ⟨h1, h2, h3, h4⟩ := planLoop_leveled c pend rem k vals
  obtain ⟨m, _, hr⟩ := h2.run_rising stepLevel gs
  obtain ⟨m', _, hr'⟩ := h3.run_rising keyLevel gs
  have hc := fun e he => levels_eq (h1 e he)
  exact ⟨⟨m, .append (.const (fun e he => (hc e he).1) (Nat.le_refl _) (Nat.le_refl _)) hr⟩,
    ⟨m', .append (.const (a := 2 * k) (fun e he => (hc e he).2.1) (Nat.le_refl _) (by omega)) hr'⟩,
    List.forall_mem_append.mpr ⟨fun e he => (hc e he).2.2, (h4.run _ gs).1⟩⟩

end JoinModel
