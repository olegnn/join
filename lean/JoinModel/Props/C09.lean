/-
  C09 — async macros are lazy, concurrent within a step, and always complete.  Three layers:
  1. the *shape* of the async expansion, for every program: one pinned boxed `async move` block containing everything,
     steps joined by `futures::join!/try_join!` or awaited directly, task-spawning through `__spawn_tokio`;
  2. under the canonical schedule (every operand polled to completion in turn) the generated code is the reference
     (`async_canonical`, `async_try_canonical`);
  3. the poll-level model (`Async.lean`) built from the parsed program (`AsyncSpec.lean`), for *every* schedule of gate
     openings — any order, batches, spurious polls: nothing runs before the first poll, a pending branch never blocks a
     ready sibling, a pending future waits exactly on closed gates, and as soon as it is polled with all gates open it
     completes with the reference result, having emitted the reference events exactly once each
     (`join_async_every_schedule`; sections 4 and 5: try macros, handler).
  Trusted: that rustc's `async`/`.await` and futures' `join!`/`try_join!` behave like `Plan.poll`/`pollStep`; K2-async
  compares real futures on a deterministic executor (gates, counting root waker) and on tokio with the reference.
  Partial: schedule independence is proved for runs in which no step ends early — no chain and no handler panics and, for
  the try macros, every chain succeeds.  When a chain fails, which failing branch wins is schedule dependent (C05); such
  runs are covered by the per-poll theorems (`pollStep_prefix`, `Plan.pending_blocked`, `Plan.poll_allOpen`) and by
  `Plan.run_stopper` (C06, C18).
-/
import JoinModel.Lemmas.GenFacts
import JoinModel.Print
import JoinModel.AsyncSpec
import JoinModel.Props.Common
import JoinModel.AsyncTry
namespace JoinModel.Props.C09
open JoinModel

/-- Laziness, syntactically: the whole async expansion is `Box::pin(async move { … })` — a single expression whose
    evaluation creates a future and runs nothing; every user token (handler definition, block captures, chains,
    handler call) is inside the `async move` block. -/
theorem all_user_tokens_inside_async (c : Code) (ha : c.kind.isAsync = true) :
    ∃ body, printCode c = [kw "Box"] ++ pathSep ++ [kw "pin", paren [kw "async", kw "move", brace body]] := by
  simp only [printCode, ha, if_true]
  exact ⟨_, rfl⟩

/-- Within a step the active branches are joined by one `P::join!(…)` / `P::try_join!(…)` (or the custom joiner) when
    there are several, and awaited directly (`chain.await`) when there is one: the macro adds no polling logic. -/
theorem async_step_join (c : Ctx) (k : Nat) (s : StepCode) (h : genStep c k = .ok s) (ha : c.kind.isAsync = true)
    (hj : c.joiner = none) :
    s.form = (if c.activeCount k > 1 then
        JoinForm.futJoin ((c.fcp.getD []) ++ [pj ':', pu ':', id' (if c.kind.isTry then "try_join" else "join"), pu '!'])
          c.kind.isTry
      else JoinForm.awaitCat) ∧ s.tbs = [] ∧ s.spawnJoin = none := by
  obtain ⟨-, -, hf, ht, hsj⟩ := genStep_inv h
  refine ⟨?_, by simp [ht, ha], by simp [hsj, ha]⟩
  rw [hf, stepForm, hj]
  simp [ha]

/-- Task-spawning: every operand of a multi-branch step is `{ __spawn_tokio(Box::pin(chain)) }`; a single active
    branch is awaited in place. -/
theorem async_spawn_wrap (c : Ctx) (k : Nat) (s : StepCode) (h : genStep c k = .ok s) (ha : c.kind.isAsync = true)
    (hs : c.kind.isSpawn = true) :
    ∀ e ∈ s.elems, e.wrap = (if c.activeCount k > 1 then ElemWrap.tokio else ElemWrap.plain) := by
  intro e he
  rw [(genStep_elem h e he).2]
  by_cases hm : c.activeCount k > 1 <;> simp [Ctx.wrapOf, Ctx.multi, hm, hs, ha]

/-- the spawn wrapper prints as `{ __spawn_tokio(Box::pin(chain)) }` -/
theorem tokio_elem_printed (e : Elem) (hw : e.wrap = .tokio) (hl : e.lazy = false) :
    printElem e = [brace [Var.spawnTokio.tok, paren ([kw "Box"] ++ pathSep ++ [kw "pin", paren e.chain])]] := by
  simp [printElem, hw, hl]

/-- later steps start from the previous result wrapped into a future: `async move { r }` -/
theorem async_step_start (t : Toks) : wrapIntoBlock true t = [id' "async", id' "move", brace t] := rfl

/-! ### 2. canonical schedule -/

/-- `join_async!` / `join_async_spawn!` (and alias): the meaning of the generated code under the canonical schedule is
    the reference semantics — events and result, for every program, world and size. -/
theorem async_canonical (σ : World) (parent : Option String) (p : Input) (kind : Kind) (code : Code)
    (hs : Supported p kind) (_ha : kind.isAsync = true) (hgen : gen p kind = .ok code) :
    evalCode σ parent code = specRun σ parent p kind := sync_refines σ parent p kind code hs hgen

/-- the theorem is not vacuous: a two-branch, two-step program under `join_async!` is supported and generates code -/
example :
    let p : Input := { branches := [⟨none, [⟨.initial, false, .none, [⟨.expr, [.ident "a"]⟩]⟩,
                                              ⟨.map, true, .none, [⟨.expr, [.ident "f"]⟩]⟩]⟩,
                                     ⟨none, [⟨.initial, false, .none, [⟨.expr, [.ident "b"]⟩]⟩]⟩] }
    (gen p ⟨true, false, false⟩).toOption.isSome = true := by decide

/-- `try_join_async!` / `try_join_async_spawn!` (and aliases): under the canonical schedule the generated code is the
    async-try reference semantics (`specRunAT`: a step stops at its first failing chain). -/
theorem async_try_canonical (σ : World) (parent : Option String) (p : Input) (kind : Kind) (code : Code)
    (hs : SupportedAT p kind) (hgen : gen p kind = .ok code) :
    evalCode σ parent code = specRunAT σ parent p kind := async_try_refines σ parent p kind code hs hgen

/-! ### 3. every schedule -/

/-- no chain of the world panics (a panic ends the future at the poll in which it happens; which one that is, is
    schedule dependent) -/
def NoChainPanic (σ : World) : Prop := ∀ b k prev caps vis, isPanicUR (σ.chain b k prev caps vis).res = false

theorem planLoop_nostop (c : SpecCfg) (pend : Pend) (hnp : NoChainPanic c.σ) (htry : c.kind.isTry = false) (rem k : Nat)
    (vals : List (Option Value)) :
    (planLoop c pend rem k vals).2.NoStop :=
  planLoop_nostop_of c pend (fun _ _ _ _ => by simp only [stopOf, htry, Bool.false_and, Bool.or_false]; exact hnp ..)
    rem k vals

/-- **Every schedule.**  `join_async!{ p }` without a handler, chains that do not panic, arbitrary pending points `pend`:
    whatever gates are open at the successive polls `gs`, once polled with every gate open the future is complete; its
    result is the outcome of the reference step loop (`loopOf`; the generated code returns it as `specHandle … none` wraps
    it), and over all polls it has emitted the generated code's events, each exactly once. -/
theorem join_async_every_schedule (σ : World) (parent : Option String) (p : Input) (kind : Kind) (code : Code)
    (hs : Supported p kind) (ha : kind.isAsync = true) (hh : p.handler = none) (hgen : gen p kind = .ok code)
    (hnp : NoChainPanic σ) (pend : Pend) (gs : List Gates) :
    let c := cfgFor σ parent p kind
    let pl := planLoop c pend (c.maxDepth - 1) 0 (List.replicate c.n none)
    (pl.2.run (gs ++ [allOpen])).2 = .done (loopOf σ parent p kind).res ∧
    (pl.1 ++ (pl.2.run (gs ++ [allOpen])).1).Perm (evalCode σ parent code).trace := by
  intro c pl
  have htry : kind.isTry = false := hs.asyncNotTry ha
  rw [sync_refines σ parent p kind code hs hgen, (run_trace_no_handler σ parent p kind hh).1]
  exact CanonIs.every_schedule (planLoop_canon c pend (by simp [c, cfgFor, Kind.threads, ha]) htry _ _ _)
    (planLoop_nostop c pend hnp htry _ _ _) gs

/-- **Laziness** (model): before the first poll nothing has been emitted — true of every plan (`Plan.run_nil`).  The
    block captures of step 0 (`pl.1`) are counted with the first poll by convention (`apollLine`), not by this theorem. -/
theorem nothing_before_first_poll (c : SpecCfg) (pend : Pend) (rem : Nat) (vals : List (Option Value)) :
    ((planLoop c pend rem 0 vals).2.run []).1 = [] := rfl

/-- **A pending branch never blocks a ready sibling**: in one poll of a step that nothing ends early (`stop` never
    holds) every operand advances exactly as far as its own gates allow.  The steps of `planLoop` end early on a panic
    (`stopOf`): for them this is `pollStep_nostop` when no operand's output stops, `pollStep_prefix` in general. -/
theorem siblings_independent (op : Gates) (ts : List (Task MEv (UR Value))) :
    (pollStep op (fun _ => false) ts).2.1 = ts.map (fun t => (t.poll op).2) := (pollStep_join op ts).1

/-- **No lost wake-up**: a future left pending by a poll waits on at least one gate, and every gate it waits on is
    closed — for `join!` and `try_join!` plans alike. -/
theorem pending_only_on_closed_gates (op : Gates) (pl : Plan MEv (UR Value) (Res Fin)) (h : (pl.poll op).2.isDone = false) :
    (pl.poll op).2.wakeSet ≠ [] ∧ ∀ g ∈ (pl.poll op).2.wakeSet, op g = false := Plan.pending_blocked op pl h

/-! ### 4. the async try macros: canonical plan = `specLoopAT`; every schedule when nothing fails -/

/-- payloads of outputs that are all successes -/
def urPayloads : List (UR Value) → List Value
  | [] => []
  | .ok (.succ p) :: r => p :: urPayloads r
  | _ :: r => urPayloads r

theorem firstStop_seqTry (stop : UR Value → Bool) (hstop : ∀ o, stop o = (isPanicUR o || isFailUR o))
    (ts : List (Task MEv (UR Value))) :
    (firstStop stop ts).1 = (M.seqTry (ts.map taskM)).trace ∧
    (match (firstStop stop ts).2 with
      | some (.panic n) => (M.seqTry (ts.map taskM)).res = .panic (.user n)
      | some (.ok v) => (M.seqTry (ts.map taskM)).res = .ok (.error v)
      | none => (M.seqTry (ts.map taskM)).res = .ok (.ok (urPayloads (ts.map (·.out)))) ∧
          urVals (ts.map (·.out)) = (urPayloads (ts.map (·.out))).map .succ) := by
  induction ts with
  | nil => exact ⟨rfl, rfl, rfl⟩
  | cons t ts ih =>
    obtain ⟨ih1, ih2⟩ := ih
    cases ho : t.out with
    | panic n => simp [firstStop, ho, hstop, isPanicUR, M.seqTry, taskM, M.andThen, UR.toRes]
    | ok v =>
      cases v with
      | succ p =>
        simp only [List.map_cons, firstStop, ho, hstop, isPanicUR, isFailUR, Value.isSucc, Bool.not_true, Bool.or_false,
          Bool.false_eq_true, if_false, M.seqTry, taskM, M.andThen, UR.toRes, ih1]
        -- the closing `M.ret` adds no event, but `andThen` shows that per outcome only
        refine ⟨by cases (M.seqTry (ts.map taskM)).res <;> simp [M.ret], ?_⟩
        -- on `(firstStop stop ts).2`, split in the goal too: a later panic; a later failure; no stop
        split at ih2
        · rw [ih2]
        · rw [ih2]; rfl
        · rw [ih2.1]; exact ⟨rfl, congrArg _ ih2.2⟩
      | _ => simp [firstStop, ho, hstop, isPanicUR, isFailUR, Value.isSucc, M.seqTry, taskM, M.andThen, UR.toRes, M.ret]

theorem firstStop_chains_try (c : SpecCfg) (htry : c.kind.isTry = true) (pend : Pend) (k : Nat) (vals : List (Option Value))
    (vis : List (String × Value)) (bcs : List (Nat × List Value)) :
    (firstStop (stopOf c) (bcs.map (taskOf c pend k vals vis))).1 = (specChainsTry c k vals vis bcs).trace ∧
    (match (firstStop (stopOf c) (bcs.map (taskOf c pend k vals vis))).2 with
      | some (.panic n) => (specChainsTry c k vals vis bcs).res = .panic (.user n)
      | some (.ok v) => (specChainsTry c k vals vis bcs).res = .ok (.error v)
      | none => (specChainsTry c k vals vis bcs).res = .ok (.ok (urPayloads ((bcs.map (taskOf c pend k vals vis)).map (·.out)))) ∧
          urVals ((bcs.map (taskOf c pend k vals vis)).map (·.out)) =
            (urPayloads ((bcs.map (taskOf c pend k vals vis)).map (·.out))).map .succ) := by
  rw [specChainsTry_eq_seqTry, ← map_taskM_taskOf c pend]
  exact firstStop_seqTry _ (fun o => by simp [stopOf, htry]) _

/-- **Canonical schedule = async-try reference.**  The canonical run of the plan of a `try_join_async!` invocation
    produces exactly the events and the outcome of `specLoopAT` (which `async_try_refines` proves equal to the
    generated code). -/
theorem planLoop_canon_try (c : SpecCfg) (pend : Pend) (htry : c.kind.isTry = true) (rem k : Nat) (vals : List (Option Value)) :
    (planLoop c pend rem k vals).1 ++ (planLoop c pend rem k vals).2.canon.1 = (specLoopAT c rem k vals).trace ∧
    (planLoop c pend rem k vals).2.canon.2 = (specLoopAT c rem k vals).res := by
  have step : ∀ rem k vals,
      (∀ ps, CanonIs (planRest c pend rem k (updVals vals (c.active k) (ps.map .succ))) (specTailAT c rem k vals (.ok ps))) →
      CanonIs (planLoop c pend rem k vals) (specLoopAT c rem k vals) := by
    intro rem k vals hrest
    rw [specLoopAT_eq]
    refine planLoop_canon_of c pend _ k vals _ _ fun capss => ?_
    obtain ⟨f1, f2⟩ := firstStop_chains_try c htry pend k vals (visibleSpec c.names vals) ((c.active k).zip capss)
    refine ⟨f1, ?_⟩
    split <;> rename_i hfs <;> rw [hfs] at f2
    · rename_i a
      cases a <;> simp only at f2 <;> simp [M.andThen, f2, onStopOf, specTailAT, M.ret]
    · exact ⟨_, f2.1, f2.2 ▸ hrest _⟩
  induction rem generalizing k vals with
  | zero =>
    refine step 0 k vals fun ps => ?_
    simp only [CanonIs, planRest, specTailAT, finishVals, htry, Plan.canon]
    cases allSome (updVals vals (c.active k) (ps.map .succ)) <;> simp [M.stuck, M.ret]
  | succ rem ih => exact step _ k vals fun ps => ih (k + 1) _

def AllSucceed (σ : World) : Prop := ∀ b k prev caps vis, ∃ p, (σ.chain b k prev caps vis).res = .ok (.succ p)

theorem planLoop_nostop_try (c : SpecCfg) (pend : Pend) (hall : AllSucceed c.σ) (rem k : Nat) (vals : List (Option Value)) :
    (planLoop c pend rem k vals).2.NoStop :=
  planLoop_nostop_of c pend (fun k vals vis bc => by
    obtain ⟨p, hp⟩ := hall bc.1 k (specPrev c vals bc.1 k) bc.2 vis
    simp [taskOf, hp, stopOf, isPanicUR, isFailUR, Value.isSucc]) rem k vals

/-- **`try_join_async!`, every schedule, when every chain succeeds**: once polled with all gates open the future is
    complete with the result of the async-try reference loop (= the generated code, `async_try_refines`), having emitted
    its events exactly once each.  When a chain fails, which failure is returned depends on the schedule (C05); the
    per-poll theorems (`pending_only_on_closed_gates`, `pollStep_prefix`) still hold. -/
theorem try_join_async_every_schedule (c : SpecCfg) (pend : Pend) (htry : c.kind.isTry = true) (hall : AllSucceed c.σ)
    (rem k : Nat) (vals : List (Option Value)) (gs : List Gates) :
    ((planLoop c pend rem k vals).2.run (gs ++ [allOpen])).2 = .done (specLoopAT c rem k vals).res ∧
    ((planLoop c pend rem k vals).1 ++ ((planLoop c pend rem k vals).2.run (gs ++ [allOpen])).1).Perm
      (specLoopAT c rem k vals).trace :=
  CanonIs.every_schedule (planLoop_canon_try c pend htry rem k vals) (planLoop_nostop_try c pend hall rem k vals) gs

/-! ### 5. the whole block, handler included -/

def NoHandlerPanic (σ : World) : Prop := ∀ vs, isPanicUR (σ.handlerCall vs) = false

theorem specRun_eq_cfg (σ : World) (parent : Option String) (p : Input) (kind : Kind) :
    specRun σ parent p kind = specRunCfg (cfgFor σ parent p kind) (p.handler.map Prod.fst) := by
  unfold specRun specRunCfg specRunCfgL cfgFor
  cases p.handler <;> rfl

theorem handlerPlan_nostop (c : SpecCfg) (pendH : PendH) (h : Option HKind) (hnh : NoHandlerPanic c.σ) (r : Res Fin) :
    (handlerPlan c pendH h r).2.NoStop := by
  unfold handlerPlan
  split
  · split
    · exact .done _
    · refine .step _ _ _ _ _ ?_ (fun _ => .done _)
      intro t ht
      simp only [List.mem_singleton] at ht
      subst ht
      exact hnh _
  · exact .done _

/-- **Every schedule, handler included.**  `join_async!{ p }` / `join_async_spawn!{ p }` with or without a `then`
    handler, the handler's returned future awaited with pending points `pendH` of its own: once polled with every gate
    open the future is complete with the result of the generated code, and over all polls it has emitted the generated
    code's events — handler definition, block captures, chains, the one handler call — each exactly once. -/
theorem join_async_every_schedule_handler (σ : World) (parent : Option String) (p : Input) (kind : Kind) (code : Code)
    (hs : Supported p kind) (ha : kind.isAsync = true) (hgen : gen p kind = .ok code)
    (hnp : NoChainPanic σ) (hnh : NoHandlerPanic σ) (pend : Pend) (pendH : PendH) (gs : List Gates) :
    let pr := planRun (cfgFor σ parent p kind) pend pendH (p.handler.map Prod.fst)
    (pr.2.run (gs ++ [allOpen])).2 = .done (evalCode σ parent code).res ∧
    (pr.1 ++ (pr.2.run (gs ++ [allOpen])).1).Perm (evalCode σ parent code).trace := by
  intro pr
  have htry : kind.isTry = false := hs.asyncNotTry ha
  rw [sync_refines σ parent p kind code hs hgen, specRun_eq_cfg]
  exact CanonIs.every_schedule (planRun_canon _ pend pendH _ (by simp [cfgFor, Kind.threads, ha]) htry)
    (planRun_nostop _ pend pendH _ (planLoop_nostop _ pend hnp htry _ _ _) (handlerPlan_nostop _ pendH _ hnh)) gs

theorem specRunAT_eq_cfg (σ : World) (parent : Option String) (p : Input) (kind : Kind) :
    specRunAT σ parent p kind =
      specRunCfgL (specLoopAT (cfgFor σ parent p kind) ((cfgFor σ parent p kind).maxDepth - 1) 0
        (List.replicate (cfgFor σ parent p kind).n none)) (cfgFor σ parent p kind) (p.handler.map Prod.fst) := by
  unfold specRunAT specRunCfgL cfgFor
  cases p.handler <;> rfl

/-- **Every schedule, async try macros, handler included**: the same for `try_join_async!{ p }` /
    `try_join_async_spawn!{ p }` with or without a `map` / `and_then` handler, when every chain succeeds and the handler
    does not panic. -/
theorem try_join_async_every_schedule_handler (σ : World) (parent : Option String) (p : Input) (kind : Kind) (code : Code)
    (hs : SupportedAT p kind) (hgen : gen p kind = .ok code) (hall : AllSucceed σ) (hnh : NoHandlerPanic σ)
    (pend : Pend) (pendH : PendH) (gs : List Gates) :
    let pr := planRun (cfgFor σ parent p kind) pend pendH (p.handler.map Prod.fst)
    (pr.2.run (gs ++ [allOpen])).2 = .done (evalCode σ parent code).res ∧
    (pr.1 ++ (pr.2.run (gs ++ [allOpen])).1).Perm (evalCode σ parent code).trace := by
  intro pr
  rw [async_try_refines σ parent p kind code hs hgen, specRunAT_eq_cfg]
  exact CanonIs.every_schedule (planRun_canon_gen _ pend pendH _ _ (planLoop_canon_try _ pend hs.isTry _ _ _))
    (planRun_nostop _ pend pendH _ (planLoop_nostop_try _ pend hall _ _ _) (handlerPlan_nostop _ pendH _ hnh)) gs

end JoinModel.Props.C09
