/-
  C14 — branches split only at top-level operators that follow a complete operand.

  About the parser model (`Parse.lean`: `scan` = the loop of `parse_until`, up to `parseMacroInput`), for *every* syn oracle,
  over the determiner table regenerated from /repo on every run.  Look-alikes inside groups or literals are invisible to the
  determiners (§1); a scan stops only at a top-level match after a complete operand, and neither reorders nor loses a token
  (§2); `>>>` attaches to the operator it follows (§3); overlapping operators resolve to the longest documented one (§4); Rust's
  own operators are never taken for DSL operators (§5); parse ∘ render = id for a chain, a branch with or without `let` (§6),
  branches separated by commas and the whole input with options in front (§7).

  The correspondence of `Parse.lean` with the real parser (and of syn with the oracle) is K1-parse; the round trip
  on the real parser is the oracle of tools/roundtrip.py.
-/
import JoinModel.Parse
import JoinModel.Lemmas.DetFacts
import JoinModel.Lemmas.ScanStep
import JoinModel.Lemmas.OptionParse
import JoinModel.Lemmas.ParseSpec
import JoinModel.Lemmas.TokEq
namespace JoinModel.Props.C14
open JoinModel

/-! ### 1. Groups and literals are atomic -/

/-- what a determiner can see of a token: delimiters but not the contents of a group, not the text of a literal -/
def shape : TT → TT
  | .group d _ => .group d []
  | .lit _ => .lit ""
  | t => t

theorem peekPunct_shape (cs : List Char) (ts : Toks) : peekPunct cs (ts.map shape) = peekPunct cs ts := by
  induction cs generalizing ts with
  | nil => cases ts <;> simp [peekPunct]
  | cons c cs ih =>
    cases ts with
    | nil => cases cs <;> simp [peekPunct]
    | cons t ts =>
      cases cs with
      | nil => cases t <;> simp [peekPunct, shape]
      | cons c2 cs2 =>
        have := ih ts
        cases t <;> simp [peekPunct, shape, this]

theorem peekPat_shape (p : TokPat) (ts : Toks) : peekPat p (ts.map shape) = peekPat p ts := by
  cases p with
  | punct cs => simp [peekPat, peekPunct_shape]
  | kw s => cases ts with
    | nil => simp [peekPat]
    | cons t ts => cases t <;> simp [peekPat, shape]
  | bracket => cases ts with
    | nil => simp [peekPat]
    | cons t ts =>
      cases t with
      | group d g => cases d <;> simp [peekPat, shape]
      | _ => simp [peekPat, shape]

theorem skip1_shape (ts : Toks) : skip1 (ts.map shape) = (skip1 ts).map (·.map shape) := by
  cases ts with
  | nil => rfl
  | cons t ts =>
    cases t with
    | punct c j =>
      by_cases hc : c = '\''
      · subst hc
        cases j
        · rfl
        · cases ts with
          | nil => rfl
          | cons u us => cases u <;> rfl
      · rw [skip1_of_ne c j ts hc]
        exact skip1_of_ne c j _ hc
    | _ => rfl

theorem checkSeq_shape (ps : List TokPat) (ts : Toks) : checkSeq ps (ts.map shape) = checkSeq ps ts := by
  induction ps generalizing ts with
  | nil => simp [checkSeq]
  | cons p ps ih =>
    cases ps with
    | nil => simp [checkSeq, peekPat_shape]
    | cons q qs =>
      simp only [checkSeq, peekPat_shape, skip1_shape]
      cases skip1 ts with
      | none => simp
      | some r => simp [ih r]

theorem check_shape (d : DetRow) (ts : Toks) : d.check (ts.map shape) = d.check ts := by
  simp [DetRow.check, checkSeq_shape]

/-- **Look-alikes inside parentheses, brackets, braces, macro calls or literals are invisible**: which determiner
    matches at a position is a function of the top-level token shapes alone. -/
theorem firstMatch_shape (ts : Toks) : firstMatch (ts.map shape) = firstMatch ts := by
  simp [firstMatch, check_shape]

theorem deferred_shape (ts : Toks) : Tables.deferredDet.check (ts.map shape) = Tables.deferredDet.check ts := check_shape _ _
theorem wrapper_shape (ts : Toks) : Tables.wrapperDet.check (ts.map shape) = Tables.wrapperDet.check ts := check_shape _ _

theorem group_contents_invisible (pre post g g' : Toks) (d : Delim) :
    firstMatch (pre ++ .group d g :: post) = firstMatch (pre ++ .group d g' :: post) := by
  rw [← firstMatch_shape, ← firstMatch_shape (pre ++ .group d g' :: post)]
  simp [shape]

example : firstMatch [.group .paren [.punct '|' true, .punct '>' false], .ident "x"] = none := by rfl

/-! ### 2. The scan: where a unit ends -/

def isTilde : TT → Bool
  | .punct '~' _ => true
  | _ => false

theorem stripTilde_cons {t : TT} (s : Toks) (h : isTilde t = false) :
    Tables.deferredDet.check (t :: s) = false ∧ stripTilde (t :: s) = t :: s := by
  have hd : Tables.deferredDet.check (t :: s) = false := by
    rw [Bool.eq_false_iff, ne_eq, deferred_iff]
    rintro ⟨j, r, e⟩
    cases e
    simp [isTilde] at h
  exact ⟨hd, by unfold stripTilde; rw [if_neg (by simp [hd])]⟩

/-- **A scan runs through an operand**: tokens at none of which the scan may stop are all collected. -/
theorem scan_through (o : Oracle) (syn : Syn) (ae : Bool) (after : Toks) : ∀ (x acc : Toks) (d0 : Bool) (fuel : Nat),
    (∀ t ∈ x, isTilde t = false) →
    (∀ p s, x = p ++ s → s ≠ [] → stopHere o syn ae (acc ++ p) (s ++ after) = false) →
    scan o syn ae (fuel + x.length) acc (x ++ after) d0 = scan o syn ae fuel (acc ++ x) after (x.isEmpty && d0)
  | [], acc, d0, fuel, _, _ => by simp
  | t :: s, acc, d0, fuel, hx, hns => by
    obtain ⟨hdef, hstrip⟩ := stripTilde_cons (s ++ after) (hx t List.mem_cons_self)
    rw [show fuel + (t :: s).length = fuel + s.length + 1 from rfl, List.cons_append,
      scan_continue o syn ae _ acc _ d0 t _ (by simp) (by simpa using hns [] (t :: s) rfl (by simp)) hstrip, hdef,
      scan_through o syn ae after s (acc ++ [t]) false fuel (fun u hu => hx u (List.mem_cons_of_mem _ hu))
        (fun p s' e hs' => by simpa [List.append_assoc] using hns (t :: p) s' (by rw [e]; rfl) hs')]
    simp [List.append_assoc]

/-- **Nothing is split off wrongly, reordered or lost, and a stop is a top-level operator after a complete
    operand.**  `DropT`: the collected tokens followed by the remaining input are the original tokens minus dropped `~`s;
    `d` says whether a `~` stood immediately in front of exactly the operator the scan stopped at. -/
theorem scan_sound (o : Oracle) (syn : Syn) (ae : Bool) (fuel : Nat) (acc input : Toks) (d0 : Bool)
    (toks : Toks) (nx : Option DetRow) (d : Bool) (input' : Toks)
    (h : scan o syn ae fuel acc input d0 = .ok (toks, nx, d, input')) :
    DropT (acc ++ input) (toks ++ input') ∧
    (nx = none → input' = []) ∧
    (∀ g, nx = some g →
      firstMatch input' = some g ∧ ((toks.isEmpty && ae) || o.valid syn toks) = true ∧
      ∃ p, p <:+ input ∧ d = Tables.deferredDet.check p ∧ input' = stripTilde p) := by
  obtain ⟨col, rfl, h1, h2, h3⟩ := (scan_spec o syn ae fuel acc input d0).of_ok h
  exact ⟨by simpa [List.append_assoc] using h1.append_left acc, h2, h3⟩

/-- **Round trip of one operand.**  A complete operand `x` without a top-level split point — no place strictly inside it
    where a determiner matches *and* the part before it is itself complete — followed by an optional `~` and an operator is
    returned exactly, with the `~` flag of exactly that operator. -/
theorem scan_roundtrip (o : Oracle) (syn : Syn) (ae : Bool) (x after' : Toks) (g : DetRow) (d j : Bool)
    (hx : ∀ t ∈ x, isTilde t = false)
    (hnt : Tables.deferredDet.check after' = false)
    (hg : firstMatch after' = some g)
    (hvalid : ((x.isEmpty && ae) || o.valid syn x) = true)
    (hnosplit : ∀ p s, x = p ++ s → s ≠ [] →
      stopHere o syn ae p (s ++ ((if d then [TT.punct '~' j] else []) ++ after')) = false)
    (fuel : Nat) (hfuel : x.length + 1 ≤ fuel) :
    scan o syn ae fuel [] (x ++ ((if d then [TT.punct '~' j] else []) ++ after')) false = .ok (x, some g, d, after') := by
  obtain ⟨k, rfl⟩ : ∃ k, fuel = k + 1 + x.length := ⟨fuel - 1 - x.length, by omega⟩
  rw [scan_through o syn ae _ x [] false (k + 1) hx (by simpa using hnosplit), List.nil_append]
  have hne : after' ≠ [] := by intro h; rw [h, firstMatch_nil] at hg; cases hg
  have hdef : Tables.deferredDet.check ((if d then [TT.punct '~' j] else []) ++ after') = d := by
    cases d
    · simpa using hnt
    · exact (deferred_iff _).2 ⟨j, after', by simp⟩
  have hstrip : stripTilde ((if d then [TT.punct '~' j] else []) ++ after') = after' := by
    unfold stripTilde; rw [hdef]; cases d <;> simp [deferred_len]
  rw [scan_stop o syn ae k x _ _ (by cases d <;> simp [hne])
    (by simp only [stopHere, hstrip, hg, Option.isSome_some, Bool.true_and]; exact hvalid), hstrip, hdef, hg]

/-- the hypotheses of `scan_roundtrip` are satisfiable: `|v| -> u8 { v } |> f` with an oracle that accepts the whole
    closure only — the `->` inside the incomplete closure does not split it -/
example :
    let o : Oracle := { validExpr := fun ts => ts.length == 6, validType := fun _ => false, isBlock := fun _ => false,
                        letSplit := fun _ => .notLet, reprintExpr := id, reprintType := id, exprPrefix := fun _ => none,
                        pathPrefix := fun _ => none, litBool := fun _ => none }
    let x : Toks := [.punct '|' false, .ident "v", .punct '|' false, .punct '-' true, .punct '>' false, .ident "u8"]
    (scan o .expr false 20 [] (x ++ [.punct '|' true, .punct '>' false, .ident "f"]) false).toOption.map
      (fun r => (r.1.length, r.2.1.map (·.comb), r.2.2.1)) = some (6, some (some .map), false) := by
  decide

/-! ### 3. `>>>` attaches to the operator it follows -/

/-- After a complete operand, `[~] op [>>>]`: the unit's `next` is exactly that operator, deferred iff the `~` is
    there, wrapping iff `>>>` follows it directly. -/
theorem parseUntil_roundtrip (o : Oracle) (syn : Syn) (ae : Bool) (x after' rest : Toks) (g : DetRow) (c : Comb) (d j w : Bool)
    (hx : ∀ t ∈ x, isTilde t = false)
    (hnt : Tables.deferredDet.check after' = false)
    (hg : firstMatch after' = some g) (hc : g.comb = some c)
    (hvalid : o.valid syn x = true)
    (hnosplit : ∀ p s, x = p ++ s → s ≠ [] →
      stopHere o syn ae p (s ++ ((if d then [TT.punct '~' j] else []) ++ after')) = false)
    (herase : eraseN g.len after' = some rest)
    (hw : Tables.wrapperDet.check rest = w)
    (hwok : w = true → c ≠ .unwrap ∧ canBeWrapper c = true) :
    parseUntil o syn ae (x ++ ((if d then [TT.punct '~' j] else []) ++ after')) =
      .ok ⟨x, some ⟨c, d, if w then .wrap else if c == .unwrap then .unwrap else .none⟩,
           if w then rest.drop Tables.wrapperDet.len else rest⟩ := by
  unfold parseUntil
  rw [scan_roundtrip o syn ae x after' g d j hx hnt hg (by simp [hvalid]) hnosplit _ (by simp)]
  simp only [hc, herase, hw]
  cases w with
  | false => simp [hvalid, hc]
  | true =>
    obtain ⟨h1, h2⟩ := hwok rfl
    simp [hvalid, h1, h2, hc]

/-! ### 4. Overlapping operators: the longest documented one wins (all continuations, all spacings) -/

theorem longest_findMap (j : Bool) (r : Toks) :
    (firstMatch ([.punct '?' true, .punct '|' true, .punct '>' true, .punct '@' j] ++ r)).map (·.comb) = some (some .findMap) := by rfl

theorem longest_filterMap (j : Bool) (r : Toks) (h : ∀ j' r', r ≠ .punct '@' j' :: r') :
    (firstMatch ([.punct '?' true, .punct '|' true, .punct '>' j] ++ r)).map (·.comb) = some (some .filterMap) :=
  filterMap_unless_at j r h

theorem longest_collect (j : Bool) (g r : Toks) :
    (firstMatch ([.punct '=' true, .punct '>' j, .group .bracket g] ++ r)).map (·.comb) = some (some .collect) := by rfl

theorem longest_andThen (j : Bool) (r : Toks) (h : ∀ g r', r ≠ .group .bracket g :: r') :
    (firstMatch ([.punct '=' true, .punct '>' j] ++ r)).map (·.comb) = some (some .andThen) :=
  andThen_unless_bracket j r h

theorem longest_unwrap (j : Bool) (r : Toks) :
    (firstMatch ([.punct '<' true, .punct '<' true, .punct '<' j] ++ r)).map (·.comb) = some (some .unwrap) := by rfl
theorem longest_or (j : Bool) (r : Toks) :
    (firstMatch ([.punct '<' true, .punct '|' j] ++ r)).map (·.comb) = some (some .or_) := by rfl
theorem longest_orElse (j : Bool) (r : Toks) :
    (firstMatch ([.punct '<' true, .punct '=' j] ++ r)).map (·.comb) = some (some .orElse) := by rfl
theorem longest_unzip (j : Bool) (r : Toks) :
    (firstMatch ([.punct '<' true, .punct '-' true, .punct '>' j] ++ r)).map (·.comb) = some (some .unzip) := by rfl
theorem longest_map (j : Bool) (r : Toks) :
    (firstMatch ([.punct '|' true, .punct '>' j] ++ r)).map (·.comb) = some (some .map) := by rfl
theorem longest_enumerate (j : Bool) (r : Toks) :
    (firstMatch ([.punct '|' false, .ident "n", .punct '>' j] ++ r)).map (·.comb) = some (some .enumerate) := by rfl

/-- the consumed length of every row is the number of token trees of its pattern (so erasing the operator leaves
    exactly what follows it) -/
theorem row_len_is_pattern_len :
    ∀ d ∈ Tables.determiners, d.comb.isSome → ∀ a ∈ d.alts,
      d.len = (a.map fun p => match p with | .punct cs => cs.length | _ => 1).sum := by
  decide

/-! ### 5. Rust's own operators are not DSL operators -/

def notPunct : TT → Bool
  | .punct _ _ => false
  | _ => true

theorem peekPunct_np (cs : List Char) (x : TT) (r : Toks) (hx : notPunct x = true) : peekPunct cs (x :: r) = false := by
  cases x with
  | punct _ _ => cases hx
  | _ => cases cs with
    | nil => rfl
    | cons c cs => cases cs <;> rfl

/-- one punctuation character followed by something that is not punctuation is never an operator — except the
    branch separator `,` and `|n>`'s own `| n` -/
theorem rust_operator_1 (c : Char) (j : Bool) (x : TT) (r : Toks) (hc : c ≠ ',') (hx : notPunct x = true)
    (hn : x ≠ .ident "n") : firstMatch (.punct c j :: x :: r) = none := by
  have hkw : peekPat (.kw "n") (x :: r) = false := by
    cases x with
    | ident s => simpa [peekPat] using fun h : s = "n" => hn (h ▸ rfl)
    | _ => rfl
  simp [firstMatch, Tables.determiners, DetRow.check, checkSeq_cons_cons, checkSeq_one, ↓hkw, peekPat, peekPunct_one,
    peekPunct_two, peekPunct_np _ x r hx, hc]

theorem rust_operator_1_end (c : Char) (j : Bool) (hc : c ≠ ',') : firstMatch [.punct c j] = none := by
  simp [firstMatch, Tables.determiners, DetRow.check, checkSeq_cons_cons, checkSeq_cons_nil, checkSeq_one, peekPat, peekPunct_one,
    peekPunct_two, peekPunct_nil, hc]

/-- Rust's two-character operators (shifts, comparisons, logic, compound assignment, paths) -/
def rustOps2 : List (Char × Char) :=
  [('<', '<'), ('>', '>'), ('&', '&'), ('|', '|'), ('=', '='), ('!', '='), ('>', '='), ('+', '='), ('-', '='),
   ('*', '='), ('/', '='), ('%', '='), ('^', '='), ('&', '='), ('|', '='), (':', ':')]

/-- By evaluation.  The only row that gets as far as `x` is `<<<` after `<<`; the spacing of the first character is
    looked at by the rows that start with a two-character token. -/
theorem rust_operator_2 (c1 c2 : Char) (j1 j2 : Bool) (x : TT) (r : Toks) (hc : (c1, c2) ∈ rustOps2)
    (hx : notPunct x = true) (hn : x ≠ .ident "n") :
    firstMatch (.punct c1 j1 :: .punct c2 j2 :: x :: r) = none ∧ firstMatch (.punct c2 j2 :: x :: r) = none := by
  refine ⟨?_, rust_operator_1 c2 j2 x r ((by decide : ∀ p ∈ rustOps2, p.2 ≠ ',') _ hc) hx hn⟩
  simp only [rustOps2, List.mem_cons, Prod.mk.injEq, List.not_mem_nil, or_false] at hc
  rcases hc with h | hc
  · obtain ⟨rfl, rfl⟩ := h
    have hrow : DetRow.check ⟨some .unwrap, [[.punct ['<'], .punct ['<'], .punct ['<']]], 3⟩
        (.punct '<' j1 :: .punct '<' j2 :: x :: r) = false := (Bool.or_false _).trans (peekPunct_np _ x r hx)
    rw [firstMatch_skip _ _ hrow]
    cases j1 <;> rfl
  · rcases hc with h | h | h | h | h | h | h | h | h | h | h | h | h | h | h <;> obtain ⟨rfl, rfl⟩ := h <;>
      cases j1 <;> rfl

/-- `<<=` and `>>=` (at their second character `<=` *is* an operator, but what precedes it there — `a <` — is
    not a complete operand: `scan_continue`) -/
theorem rust_operator_3 (c : Char) (j1 j2 j3 : Bool) (x : TT) (r : Toks) (hc : c = '<' ∨ c = '>') (hx : notPunct x = true) :
    firstMatch (.punct c j1 :: .punct c j2 :: .punct '=' j3 :: x :: r) = none := by
  rcases hc with rfl | rfl <;> cases j1 <;> rfl

/-- the closing `>>` of nested generics followed by an operator: nothing matches at either `>`, the operator is
    found right after them (here: `Vec<Vec<u8>> |> f`) -/
theorem generic_close_then_operator (j : Bool) (r : Toks) :
    firstMatch (.punct '>' true :: .punct '>' false :: .punct '|' true :: .punct '>' j :: r) = none ∧
    firstMatch (.punct '>' false :: .punct '|' true :: .punct '>' j :: r) = none ∧
    (firstMatch (.punct '|' true :: .punct '>' j :: r)).map (·.comb) = some (some .map) := by
  exact ⟨by rfl, by rfl, by rfl⟩

/-! ### 6. Whole chains: parse ∘ render = id -/

theorem scan_to_end (o : Oracle) (syn : Syn) (ae : Bool) (x : Toks)
    (hx : ∀ t ∈ x, isTilde t = false)
    (hnosplit : ∀ p s, x = p ++ s → s ≠ [] → stopHere o syn ae p s = false)
    (fuel : Nat) (hfuel : x.length + 1 ≤ fuel) :
    scan o syn ae fuel [] x false = .ok (x, none, false, []) := by
  obtain ⟨k, rfl⟩ : ∃ k, fuel = k + 1 + x.length := ⟨fuel - 1 - x.length, by omega⟩
  have := scan_through o syn ae [] x [] false (k + 1) hx (by simpa using hnosplit)
  simp only [List.append_nil, List.nil_append, Bool.and_false] at this
  rw [this]
  rfl

theorem parseUntil_end (o : Oracle) (syn : Syn) (ae : Bool) (x : Toks)
    (hx : ∀ t ∈ x, isTilde t = false) (hvalid : o.valid syn x = true)
    (hnosplit : ∀ p s, x = p ++ s → s ≠ [] → stopHere o syn ae p s = false) :
    parseUntil o syn ae x = .ok ⟨x, none, []⟩ := by
  unfold parseUntil
  rw [scan_to_end o syn ae x hx hnosplit _ (by simp)]
  simp [hvalid]

theorem eraseN_append (a b : Toks) : eraseN a.length (a ++ b) = some b := by
  induction a with
  | nil => rfl
  | cons t a ih => simpa [eraseN] using ih

/-- what is written behind an operator -/
inductive ActKind
  | unary (x : Toks)        -- one expression operand
  | nullary                 -- nothing (`^^>`, `|n>`, `<<<`, `=>[]` / `<->` without types)
  | wrapper (w : Toks)      -- `>>>` (as the three tokens `w`)
  /-- several operands separated by `,`, or type operands (`^@ a, f`, `=>[] T`, `<-> A, B, C, D`) -/
  | ops (k : OperandKind) (x : Toks) (xs : List Toks)

/-- a written action: `[~] op` followed by an operand, by nothing, or by `>>>` -/
structure SrcAct where
  row : DetRow
  comb : Comb
  ctor : Comb               -- the constructor the member gets
  op : Toks
  deferred : Bool
  tildeJoint : Bool
  kind : ActKind

def commaSepToks : Toks → List Toks → Toks
  | x, [] => x
  | x, y :: ys => x ++ (TT.punct ',' false :: commaSepToks y ys)

def SrcAct.body (a : SrcAct) : Toks :=
  match a.kind with
  | .unary x => x
  | .nullary => []
  | .wrapper w => w
  | .ops _ x xs => commaSepToks x xs

def SrcAct.isWrapper (a : SrcAct) : Bool :=
  match a.kind with
  | .wrapper _ => true
  | _ => false

/-- the actions as written, followed by `term`: nothing, or the `,` that separates the branch from what follows -/
def renderActs (term : Toks) : List SrcAct → Toks
  | [] => term
  | a :: as => (if a.deferred then [TT.punct '~' a.tildeJoint] else []) ++ (a.op ++ (a.body ++ renderActs term as))

def TermOK (term : Toks) : Prop := term = [] ∨ ∃ j more, term = TT.punct ',' j :: more

def SrcAct.mv (a : SrcAct) : Move := if a.isWrapper then .wrap else if a.comb == .unwrap then .unwrap else .none

def SrcAct.grp (a : SrcAct) : NextGroup := ⟨a.comb, a.deferred, a.mv⟩

/-- what is left for the member of `a` itself once the previous unit has consumed `[~] op [>>>]` -/
def SrcAct.tail (a : SrcAct) (rest : Toks) : Toks :=
  match a.kind with
  | .unary x => x ++ rest
  | .nullary => rest
  | .wrapper _ => rest
  | .ops _ x xs => commaSepToks x xs ++ rest

/-- the unit in front of `acts` ends with: which action follows, and what is left for it -/
def nextOf (term : Toks) : List SrcAct → Option NextGroup × Toks
  | [] => (none, term)
  | a :: as => (some a.grp, a.tail (renderActs term as))

/-- an operand followed by `after`: no `~`, complete, no top-level split point -/
def OperandOK (o : Oracle) (x after : Toks) : Prop :=
  (∀ t ∈ x, isTilde t = false) ∧ o.valid .expr x = true ∧
  ∀ p s, x = p ++ s → s ≠ [] → stopHere o .expr false p (s ++ after) = false

def synOfKind : OperandKind → Syn
  | .expr => .expr
  | .type => .type

def OperandOKs (o : Oracle) (syn : Syn) (x after : Toks) : Prop :=
  (∀ t ∈ x, isTilde t = false) ∧ o.valid syn x = true ∧
  ∀ p s, x = p ++ s → s ≠ [] → stopHere o syn false p (s ++ after) = false

def OperandsOK (o : Oracle) (syn : Syn) : Toks → List Toks → Toks → Prop
  | x, [], after => OperandOKs o syn x after
  | x, y :: ys, after => OperandOKs o syn x (TT.punct ',' false :: (commaSepToks y ys ++ after)) ∧ OperandsOK o syn y ys after

/-- the operator of the first action is recognised where it stands, and `>>>` follows it exactly when written -/
def HeadOK (term : Toks) : List SrcAct → Prop
  | [] => TermOK term
  | a :: as =>
    a.row.comb = some a.comb ∧ a.op.length = a.row.len ∧
    Tables.deferredDet.check (a.op ++ (a.body ++ renderActs term as)) = false ∧
    firstMatch (a.op ++ (a.body ++ renderActs term as)) = some a.row ∧
    Tables.wrapperDet.check (a.body ++ renderActs term as) = a.isWrapper ∧
    (a.isWrapper = true → a.comb ≠ .unwrap ∧ canBeWrapper a.comb = true ∧ a.body.length = Tables.wrapperDet.len)

/-- every action is well-formed: arity and operand match the operator -/
def ActsOK (o : Oracle) (term : Toks) : List SrcAct → Prop
  | [] => TermOK term
  | a :: as =>
    HeadOK term (a :: as) ∧
    (match a.kind with
      | .unary x => arityOf a.comb = some ⟨a.ctor, 1, false, .expr⟩ ∧ OperandOK o x (renderActs term as)
      | .nullary => ∃ n k, arityOf a.comb = some ⟨a.ctor, n, true, k⟩
      | .wrapper _ => wrapperCtorOf a.comb = some a.ctor
      | .ops k x xs =>
        ∃ ae, arityOf a.comb = some ⟨a.ctor, xs.length + 1, ae, k⟩ ∧ a.comb ≠ .unwrap ∧
          (ae = true → x ≠ [] ∧ firstMatch (commaSepToks x xs ++ renderActs term as) = none) ∧
          OperandsOK o (synOfKind k) x xs (renderActs term as)) ∧
    ActsOK o term as

/-- the `>>>`/`<<<` balance never goes below zero (it restarts at every `~`) -/
def BalanceOK : Int → List SrcAct → Prop
  | _, [] => True
  | w, a :: as =>
    0 ≤ (if a.deferred then 0 else w) + mvDelta a.mv ∧
    BalanceOK ((if a.deferred then 0 else w) + mvDelta a.mv) as

def expMember (o : Oracle) (a : SrcAct) : Member :=
  match a.kind with
  | .unary x => ⟨a.ctor, a.deferred, a.mv, [mkOperand o .expr x]⟩
  | .nullary => ⟨a.ctor, a.deferred, a.mv, []⟩
  | .wrapper _ => ⟨a.ctor, a.deferred, .wrap, [⟨.expr, Tables.wrapperPlaceholder⟩]⟩
  | .ops k x xs => ⟨a.ctor, a.deferred, a.mv, (x :: xs).map (mkOperand o k)⟩

theorem ActsOK.head {o : Oracle} {term : Toks} {acts : List SrcAct} (h : ActsOK o term acts) : HeadOK term acts := by
  cases acts with
  | nil => exact h
  | cons a as => exact h.1

/-- the `,` between branches is the first determiner, consumes nothing and names no combinator -/
theorem comma_row (j : Bool) (more : Toks) :
    firstMatch (TT.punct ',' j :: more) = some ⟨none, [[.punct [',']]], 0⟩ := by rfl

/-- the `,` that ends the branch is left for the chain builder -/
theorem parseUntil_sep (o : Oracle) (syn : Syn) (ae : Bool) (x : Toks) (j : Bool) (more : Toks)
    (hx : ∀ t ∈ x, isTilde t = false) (hvalid : o.valid syn x = true)
    (hnosplit : ∀ p s, x = p ++ s → s ≠ [] → stopHere o syn ae p (s ++ TT.punct ',' j :: more) = false) :
    parseUntil o syn ae (x ++ TT.punct ',' j :: more) = .ok ⟨x, none, TT.punct ',' j :: more⟩ := by
  unfold parseUntil
  -- `scan_roundtrip` without a `~`: its `(if false then [~] else []) ++ _` reduces away
  rw [show scan o syn ae _ [] (x ++ TT.punct ',' j :: more) false = _ from
    scan_roundtrip o syn ae x _ _ false false hx (stripTilde_cons more (t := .punct ',' j) rfl).1 (comma_row j more)
      (by simp [hvalid]) hnosplit _ (by simp)]
  simp [eraseN, hvalid]

theorem parseUntil_acts (o : Oracle) (syn : Syn) (ae : Bool) (term x : Toks) (acts : List SrcAct)
    (hx : ∀ t ∈ x, isTilde t = false) (hvalid : o.valid syn x = true)
    (hnosplit : ∀ p s, x = p ++ s → s ≠ [] → stopHere o syn ae p (s ++ renderActs term acts) = false)
    (hhead : HeadOK term acts) :
    parseUntil o syn ae (x ++ renderActs term acts) = .ok ⟨x, (nextOf term acts).1, (nextOf term acts).2⟩ := by
  cases acts with
  | nil =>
    rcases hhead with rfl | ⟨j, more, rfl⟩
    · simpa [renderActs, nextOf] using parseUntil_end o syn ae x hx hvalid (by simpa [renderActs] using hnosplit)
    · exact parseUntil_sep o syn ae x j more hx hvalid hnosplit
  | cons a as =>
    obtain ⟨h1, h2, h3, h4, h5, h6⟩ := hhead
    refine (parseUntil_roundtrip o syn ae x _ _ a.row a.comb a.deferred a.tildeJoint a.isWrapper hx h3 h4 h1 hvalid hnosplit
      (h2 ▸ eraseN_append _ _) h5 fun hw => ⟨(h6 hw).1, (h6 hw).2.1⟩).trans ?_
    -- the input left over: the body stays for the action itself, unless it is `>>>`, which goes with the operator
    rcases a with ⟨_, _, _, _, _, _, _ | _ | w | _⟩
    case wrapper =>
      simp [nextOf, SrcAct.grp, SrcAct.mv, SrcAct.isWrapper, SrcAct.tail, SrcAct.body, ← show w.length = _ from (h6 rfl).2.2]
    all_goals rfl
theorem scan_empty_nonempty (o : Oracle) (fuel : Nat) :
    ∀ (acc input : Toks) (d : Bool), acc ≠ [] → ∀ r, scan o .empty true fuel acc input d = .ok r → r.2.1 = none ∧ r.1 ≠ [] := by
  intro acc input d hacc r h
  obtain ⟨toks, nx, d', input'⟩ := r
  obtain ⟨col, rfl, -, -, h3⟩ := (scan_spec o .empty true fuel acc input d).of_ok h
  have hne : acc ++ col ≠ [] := by simp [hacc]
  refine ⟨?_, hne⟩
  cases nx with
  | none => rfl
  | some g =>
    have := (h3 g rfl).2.1
    simp [Oracle.valid, hne] at this

theorem parseUntil_empty_fails (o : Oracle) (input : Toks) (hne : input ≠ [])
    (hnt : Tables.deferredDet.check input = false) (hfm : firstMatch input = none) :
    ∃ e, parseUntil o .empty true input = .error e := by
  unfold parseUntil
  cases input with
  | nil => exact absurd rfl hne
  | cons t rest =>
    have hstrip : stripTilde (t :: rest) = t :: rest := by unfold stripTilde; rw [hnt]; simp
    have hst : stopHere o .empty true [] (t :: rest) = false := by simp [stopHere, hstrip, hfm]
    rw [show (t :: rest).length + 1 = (rest.length + 1) + 1 from rfl,
      scan_continue o .empty true (rest.length + 1) [] (t :: rest) false t rest (by simp) hst hstrip]
    cases hsc : scan o .empty true (rest.length + 1) ([] ++ [t]) rest (Tables.deferredDet.check (t :: rest)) with
    | error e => exact ⟨e, rfl⟩
    | ok r =>
      obtain ⟨h1, h2⟩ := scan_empty_nonempty o _ _ _ _ (by simp) r hsc
      obtain ⟨toks, nx, d, inp⟩ := r
      simp only at h1 h2
      subst h1
      have hv : o.valid .empty toks = false := by cases toks <;> simp_all [Oracle.valid]
      exact ⟨.unexpectedTokens, by simp [hv]⟩

theorem parseUnits_ops (o : Oracle) (syn : Syn) (term : Toks) (as : List SrcAct) (hhead : HeadOK term as) (xs : List Toks) :
    ∀ (x : Toks) (acc : List Toks), OperandsOK o syn x xs (renderActs term as) →
      parseUnits o syn (xs.length + 1) (commaSepToks x xs ++ renderActs term as) acc =
        .ok (acc ++ (x :: xs), (nextOf term as).1, (nextOf term as).2) := by
  induction xs with
  | nil =>
    intro x acc ⟨h1, h2, h3⟩
    simp [parseUnits, commaSepToks, parseUntil_acts o syn false term x as h1 h2 h3 hhead]
  | cons y ys ih =>
    intro x acc ⟨⟨h1, h2, h3⟩, hrest⟩
    have hpu := parseUntil_sep o syn false x false (commaSepToks y ys ++ renderActs term as) h1 h2 h3
    rw [show commaSepToks x (y :: ys) ++ renderActs term as = x ++ TT.punct ',' false :: (commaSepToks y ys ++ renderActs term as)
      by simp [commaSepToks]]
    show parseUnits o syn ((ys.length + 1) + 1) _ acc = _
    conv => lhs; unfold parseUnits
    simp only [hpu, Nat.add_one_ne_zero, if_false, eatComma, Option.isSome_none, Bool.false_eq_true]
    rw [ih y (acc ++ [x]) hrest]
    simp

theorem unary_not_unwrap (c ctor : Comb) (h : arityOf c = some ⟨ctor, 1, false, .expr⟩) : (c == Comb.unwrap) = false := by
  cases c <;> try rfl
  have : arityOf Comb.unwrap = some ⟨.unwrap, 0, true, .expr⟩ := by decide
  rw [this] at h
  cases h

theorem parseGroup_act (o : Oracle) (term : Toks) (a : SrcAct) (as : List SrcAct) (hok : ActsOK o term (a :: as)) :
    ∃ raws, parseGroup o a.grp (a.tail (renderActs term as)) =
      .ok ((expMember o a, raws), (nextOf term as).1, (nextOf term as).2) := by
  obtain ⟨-, hkind, hrest⟩ := hok
  have hnext := ActsOK.head hrest
  -- the unit of an action without operands: the empty token list in front of the next action
  have hpu : parseUntil o .empty true (renderActs term as) = .ok ⟨[], (nextOf term as).1, (nextOf term as).2⟩ :=
    parseUntil_acts o .empty true term [] as (by simp) rfl (fun p s h1 h2 => by
      have : p = [] ∧ s = [] := by simpa using h1.symm
      exact absurd this.2 h2) hnext
  -- `a.kind` has to be a constructor for `tail`, `mv` and `expMember` to reduce
  rcases a with ⟨row, comb, ctor, op, d, tj, x | _ | w | ⟨k, x, xs⟩⟩ <;>
    simp only [SrcAct.grp, SrcAct.mv, SrcAct.isWrapper, SrcAct.tail, expMember] at hkind ⊢
  · obtain ⟨har, hx1, hx2, hx3⟩ := hkind
    have hpu := parseUntil_acts o .expr false term x as hx1 hx2 hx3 hnext
    exact ⟨[x], by simp [parseGroup, unary_not_unwrap comb ctor har, har, parseNOrEmpty, parseUnits, hpu]⟩
  · obtain ⟨n, k, har⟩ := hkind
    -- `<<<` is a nullary action too: its `mv` differs, what is parsed does not
    exact ⟨[], by cases hu : comb == Comb.unwrap <;> simp [parseGroup, har, parseNOrEmpty, hpu]⟩
  · exact ⟨[], by simp [parseGroup, hkind, hpu]⟩
  · obtain ⟨ae, har, hnu, hae, hops⟩ := hkind
    have hunits := parseUnits_ops o _ term as hnext xs x [] hops
    refine ⟨x :: xs, ?_⟩
    -- the syntax class is a `match` on the kind inside `parseGroup`: it reduces for a concrete `k` only
    cases ae with
    | false => cases k <;> simp only [synOfKind] at hunits <;> simp [parseGroup, hnu, har, parseNOrEmpty, hunits]
    | true =>
      -- an operator whose operands may be left out tries the empty unit first; that has to fail for the written ones to be read
      obtain ⟨hxne, hfm⟩ := hae rfl
      have hx1 : ∀ t ∈ x, isTilde t = false := by
        cases xs with
        | nil => exact hops.1
        | cons y ys => exact hops.1.1
      obtain ⟨t, rx, rfl⟩ := List.exists_cons_of_ne_nil hxne
      obtain ⟨w, hw⟩ : ∃ w, commaSepToks (t :: rx) xs ++ renderActs term as = t :: w := by cases xs <;> exact ⟨_, rfl⟩
      obtain ⟨e, he⟩ := parseUntil_empty_fails o _ (List.cons_ne_nil _ _) (stripTilde_cons w (hx1 t List.mem_cons_self)).1 (hw ▸ hfm)
      rw [← hw] at he
      cases k <;> simp only [synOfKind] at hunits <;> simp [parseGroup, hnu, har, parseNOrEmpty, hunits, he]

/-- what the chain builder leaves of the terminator: the separating comma is consumed -/
def afterTerm (term : Toks) : Toks := (eatComma term).getD term

theorem finish_chain (term : Toks) (hterm : TermOK term) (pat : Option BranchPat) (ms : List Member) (lastBlock : Bool) :
    (if lastBlock then (.ok (⟨pat, ms⟩, (eatComma term).getD term) : Except ParseErr (Branch × Toks))
     else if term.isEmpty then .ok (⟨pat, ms⟩, term)
     else match eatComma term with
       | some r => .ok (⟨pat, ms⟩, r)
       | none => .error (.syn "expected `,`")) = .ok (⟨pat, ms⟩, afterTerm term) := by
  rcases hterm with rfl | ⟨j, more, rfl⟩
  · cases lastBlock <;> simp [afterTerm, eatComma]
  · cases lastBlock <;> simp [afterTerm, eatComma]

/-- the chain builder from any group on: `g` has been read off `input` as the member `m` (`m'` after the `let` handling),
    in front of the written actions `acts` -/
theorem chain_from (o : Oracle) (term : Toks) : ∀ (fuel : Nat) (acts : List SrcAct) (g : NextGroup) (input : Toks)
    (m m' : Member) (raws : List Toks) (members : List Member) (pat pat' : Option BranchPat) (w : Int) (isFirst : Bool),
    parseGroup o g input = .ok ((m, raws), (nextOf term acts).1, (nextOf term acts).2) → letFirst o isFirst raws m pat = .ok (m', pat') →
    ActsOK o term acts → BalanceOK w acts → acts.length + 1 ≤ fuel →
    buildChain o fuel g input members pat w isFirst = .ok (⟨pat', members ++ m' :: acts.map (expMember o)⟩, afterTerm term)
  | 0, _, _, _, _, _, _, _, _, _, _, _, _, _, _, _, hf => by omega
  | fuel + 1, acts, g, input, m, m', raws, members, pat, pat', w, isFirst, hpg, hfirst, hok, hbal, hf => by
    unfold buildChain
    rw [hpg]
    simp only
    -- `hfirst` speaks of the block that `split` finds: `letFirst` unfolds to it
    split
    · next heq => cases hfirst.symm.trans heq
    next heq =>
    cases hfirst.symm.trans heq
    cases acts with
    | nil => exact finish_chain term hok pat' _ _
    | cons b bs =>
      obtain ⟨raws', hpg'⟩ := parseGroup_act o term b bs hok
      simp only [nextOf]
      rw [if_neg (Int.not_lt.mpr (show 0 ≤ (if b.grp.deferred then 0 else w) + mvDelta b.grp.mv from hbal.1))]
      exact (chain_from o term fuel bs _ _ _ _ _ _ _ _ _ _ hpg' rfl hok.2.2 hbal.2 (by simp at hf ⊢; omega)).trans (by simp)

/-- **Parse ∘ render = id for chains.**  Well-formed actions (`ActsOK`, `BalanceOK`) `[~] op operand`, `[~] op` (operand-less
    operators and `<<<`) and `[~] op >>>`, followed by the end of the input or by the `,` that ends the branch: the chain
    builder returns exactly these members, in order, each with the `~` flag and the `>>>`/`<<<` role it was written with,
    and consumes exactly the chain and its separating comma.  Operators with several operands (`^@ init, f`, `?^@ init, f`)
    or type operands (`=>[] T`, `<-> A, B, C, D`) are the action kind `ops`; where the operand list may be left out (`=>[]`,
    `<->`) that is `nullary`.  (Partial: the initial expression is not a `let`, and the input has no handler or option
    items — see `input_roundtrip_partial`.) -/
theorem chain_roundtrip_partial (o : Oracle) (term : Toks) (acts : List SrcAct) :
    ∀ (a : SrcAct) (members : List Member) (pat : Option BranchPat) (w : Int) (fuel : Nat),
      ActsOK o term (a :: acts) → BalanceOK w acts → acts.length + 1 ≤ fuel →
      buildChain o fuel a.grp (a.tail (renderActs term acts)) members pat w false =
        .ok (⟨pat, members ++ (expMember o a :: acts.map (expMember o))⟩, afterTerm term) := by
  intro a members pat w fuel hok hbal hf
  obtain ⟨raws, hpg⟩ := parseGroup_act o term a acts hok
  exact chain_from o term fuel acts _ _ _ _ _ _ _ _ _ _ hpg rfl hok.2.2 hbal hf

theorem parseGroup_initial (o : Oracle) (term x0 : Toks) (acts : List SrcAct)
    (hx0 : OperandOK o x0 (renderActs term acts)) (hhead : HeadOK term acts) :
    parseGroup o ⟨.initial, false, .none⟩ (x0 ++ renderActs term acts) =
      .ok ((⟨.initial, false, .none, [mkOperand o .expr x0]⟩, [x0]), (nextOf term acts).1, (nextOf term acts).2) := by
  have hpu := parseUntil_acts o .expr false term x0 acts hx0.1 hx0.2.1 hx0.2.2 hhead
  simp [parseGroup, arity_initial, parseNOrEmpty, parseUnits, hpu]

/-- the whole branch: an initial value without `let`, then the actions, then the end of the input or `,` -/
theorem branch_roundtrip_partial (o : Oracle) (term x0 : Toks) (acts : List SrcAct)
    (hx0 : OperandOK o x0 (renderActs term acts)) (hlet : o.letSplit x0 = .notLet) (hacts : ActsOK o term acts)
    (hbal : BalanceOK 0 acts) (fuel : Nat) (hfuel : acts.length + 2 ≤ fuel) :
    buildChain o fuel ⟨.initial, false, .none⟩ (x0 ++ renderActs term acts) [] none 0 true =
      .ok (⟨none, ⟨.initial, false, .none, [mkOperand o .expr x0]⟩ :: acts.map (expMember o)⟩, afterTerm term) :=
  chain_from o term fuel acts _ _ _ _ _ _ _ _ _ _ (parseGroup_initial o term x0 acts hx0 hacts.head) (by simp [letFirst, hlet])
    hacts hbal (by omega)

/-- … and with `let`: when syn reads the initial unit as `let <ident pattern> = rhs`, the branch carries the pattern and
    its identifier, and its initial value is `rhs` (a block or an expression, as syn classifies it). -/
theorem branch_roundtrip_let_partial (o : Oracle) (term x0 : Toks) (acts : List SrcAct) (p : Toks) (i : String) (rhs : Toks)
    (blk : Bool) (hx0 : OperandOK o x0 (renderActs term acts)) (hlet : o.letSplit x0 = .identPat p i rhs blk)
    (hacts : ActsOK o term acts) (hbal : BalanceOK 0 acts) (fuel : Nat) (hfuel : acts.length + 2 ≤ fuel) :
    buildChain o fuel ⟨.initial, false, .none⟩ (x0 ++ renderActs term acts) [] none 0 true =
      .ok (⟨some ⟨p, i⟩, ⟨.initial, false, .none, [⟨if blk then .block else .expr, rhs⟩]⟩ :: acts.map (expMember o)⟩,
        afterTerm term) :=
  chain_from o term fuel acts _ _ _ _ _ _ _ _ _ _ (parseGroup_initial o term x0 acts hx0 hacts.head) (by simp [letFirst, hlet])
    hacts hbal (by omega)

/-- a `let` whose pattern is not an identifier pattern is rejected with the `IncorrectLet` error -/
theorem branch_other_let_rejected (o : Oracle) (term x0 : Toks) (acts : List SrcAct)
    (hx0 : OperandOK o x0 (renderActs term acts)) (hlet : o.letSplit x0 = .otherPat)
    (hacts : ActsOK o term acts) (fuel : Nat) (hfuel : 1 ≤ fuel) :
    buildChain o fuel ⟨.initial, false, .none⟩ (x0 ++ renderActs term acts) [] none 0 true = .error .incorrectLet := by
  obtain ⟨fuel, rfl⟩ : ∃ f, fuel = f + 1 := ⟨fuel - 1, by omega⟩
  unfold buildChain
  rw [parseGroup_initial o term x0 acts hx0 (ActsOK.head hacts)]
  simp only [if_true, hlet]

/-! ### 7. Several branches -/

structure SrcBranch where
  x0 : Toks
  acts : List SrcAct

def renderBranches : List SrcBranch → Toks
  | [] => []
  | [b] => b.x0 ++ renderActs [] b.acts
  | b :: b' :: bs => b.x0 ++ renderActs (TT.punct ',' false :: renderBranches (b' :: bs)) b.acts

def expBranch (o : Oracle) (b : SrcBranch) : Branch :=
  ⟨none, ⟨.initial, false, .none, [mkOperand o .expr b.x0]⟩ :: b.acts.map (expMember o)⟩

/-- every branch is well-formed in front of what follows it, does not start like a handler, and is not longer than
    its text (every operator has at least one token) -/
def BranchesOK (o : Oracle) : List SrcBranch → Prop
  | [] => True
  | [b] =>
    OperandOK o b.x0 (renderActs [] b.acts) ∧ o.letSplit b.x0 = .notLet ∧ ActsOK o [] b.acts ∧ BalanceOK 0 b.acts ∧
    handlerKw (renderBranches [b]) = none ∧ b.acts.length ≤ (renderBranches [b]).length ∧ renderBranches [b] ≠ []
  | b :: b' :: bs =>
    OperandOK o b.x0 (renderActs (TT.punct ',' false :: renderBranches (b' :: bs)) b.acts) ∧ o.letSplit b.x0 = .notLet ∧
    ActsOK o (TT.punct ',' false :: renderBranches (b' :: bs)) b.acts ∧ BalanceOK 0 b.acts ∧
    handlerKw (renderBranches (b :: b' :: bs)) = none ∧ b.acts.length ≤ (renderBranches (b :: b' :: bs)).length ∧
    renderBranches (b :: b' :: bs) ≠ [] ∧ BranchesOK o (b' :: bs)

/-- **One branch of the item loop**: the loop appends the branch and goes on behind the separating comma. -/
theorem parseItems_branch (o : Oracle) (b : SrcBranch) (tail : Toks) (acc : List Branch) (h : Option (HKind × Toks)) (fuel : Nat)
    (hok : OperandOK o b.x0 (renderActs tail b.acts) ∧ o.letSplit b.x0 = .notLet ∧ ActsOK o tail b.acts ∧ BalanceOK 0 b.acts ∧
      handlerKw (b.x0 ++ renderActs tail b.acts) = none ∧ b.acts.length ≤ (b.x0 ++ renderActs tail b.acts).length ∧
      b.x0 ++ renderActs tail b.acts ≠ []) :
    parseItems o (fuel + 1) (b.x0 ++ renderActs tail b.acts) acc h =
      parseItems o fuel (afterTerm tail) (acc ++ [expBranch o b]) h := by
  obtain ⟨h1, h2, h3, h4, h5, h6, h7⟩ := hok
  have hb := branch_roundtrip_partial o tail b.x0 b.acts h1 h2 h3 h4 _ (Nat.add_le_add_right h6 2)
  obtain ⟨t, ts, hts⟩ := List.exists_cons_of_ne_nil h7
  rw [hts] at hb h5 ⊢
  simp only [parseItems, h5, Option.isSome_none, Bool.false_eq_true, if_false, hb]
  rfl

/-- **Commas separate branches.**  Branches written one after the other with `,` between them: the item loop of
    `JoinInputDefault::parse` returns exactly these branches, in order, and no handler. -/
theorem branches_roundtrip_partial (o : Oracle) (bs : List SrcBranch) :
    ∀ (acc : List Branch) (fuel : Nat), BranchesOK o bs → bs.length + 1 ≤ fuel →
      parseItems o fuel (renderBranches bs) acc none = .ok (acc ++ bs.map (expBranch o), none) := by
  -- the three cases of `renderBranches` and `BranchesOK`: no branch, the last one, one with more behind its comma
  induction bs using renderBranches.induct with
  | case1 =>
    intro acc fuel _ hf
    obtain ⟨fuel, rfl⟩ := Nat.exists_eq_add_one.mpr (Nat.zero_lt_of_lt hf)
    simp [renderBranches, parseItems]
  | case2 b =>
    intro acc fuel hok hf
    obtain ⟨fuel, rfl⟩ := Nat.exists_eq_add_of_le' hf
    exact (parseItems_branch o b [] acc none _ hok).trans (by simp [afterTerm, eatComma, parseItems])
  | case3 b b' bs ih =>
    intro acc fuel ⟨h1, h2, h3, h4, h5, h6, h7, hrest⟩ hf
    obtain ⟨fuel, rfl⟩ := Nat.exists_eq_add_one.mpr (Nat.zero_lt_of_lt hf)
    exact (parseItems_branch o b _ acc none fuel ⟨h1, h2, h3, h4, h5, h6, h7⟩).trans
      ((ih (acc ++ [expBranch o b]) fuel hrest (by simp at hf ⊢; omega)).trans (by simp))

theorem term_le_renderActs (term : Toks) (acts : List SrcAct) : term.length ≤ (renderActs term acts).length := by
  induction acts with
  | nil => exact Nat.le_refl _
  | cons a as ih => simp only [renderActs, List.length_append]; omega

theorem branches_le_length (o : Oracle) : ∀ bs : List SrcBranch, BranchesOK o bs → bs.length ≤ (renderBranches bs).length + 1
  | [], _ => Nat.zero_le _
  | [_], _ => by simp
  | b :: b' :: bs, h => by
    have := branches_le_length o (b' :: bs) h.2.2.2.2.2.2.2
    have := term_le_renderActs (TT.punct ',' false :: renderBranches (b' :: bs)) b.acts
    simp only [renderBranches, List.length_append, List.length_cons] at *
    omega

/-- **The whole macro input with options in front**: any subset of the four options, in any order, each with an argument
    that parses, then the branches.  The options set their fields (`applyItem`, Lemmas/OptionParse.lean); an option argument
    with tokens left over is the "unexpected token" error. -/
theorem input_roundtrip_options_partial (o : Oracle) (its : List OptItem) (bs : List SrcBranch) (hne : bs ≠ [])
    (hok : BranchesOK o bs) (hits : ∀ it ∈ its, ItemOK o it) (hnd : (its.map (·.kw)).Nodup)
    (hopt : optionKw (renderBranches bs) = none) :
    parseMacroInput o (renderOpts its ++ renderBranches bs) =
      (if (its.foldl (applyItem o) {}).unexpected then .error (.syn "unexpected token")
       else .ok { fcp := (its.foldl (applyItem o) {}).fcp, joiner := (its.foldl (applyItem o) {}).joiner,
                  transpose := (its.foldl (applyItem o) {}).transpose, lazy := (its.foldl (applyItem o) {}).lazy,
                  handler := none, branches := bs.map (expBranch o) }) := by
  have hrounds : Tables.optionRounds = none := rfl
  unfold parseMacroInput
  simp only [hrounds]
  rw [parseOptions_renderOpts o its _ hits hnd hopt]
  simp only
  rw [branches_roundtrip_partial o bs [] _ hok (by have := branches_le_length o bs hok; omega)]
  cases bs with
  | nil => exact absurd rfl hne
  | cons b rest => rfl

/-- **The whole macro input**, without options and handler: branches separated by commas parse to exactly these
    branches, in order. -/
theorem input_roundtrip_partial (o : Oracle) (bs : List SrcBranch) (hne : bs ≠ []) (hok : BranchesOK o bs)
    (hopt : optionKw (renderBranches bs) = none) :
    parseMacroInput o (renderBranches bs) = .ok { branches := bs.map (expBranch o) } :=
  input_roundtrip_options_partial o [] bs hne hok (fun _ h => nomatch h) .nil hopt

-- `Lemmas/TokEq`: `==` on token trees is equality, so equations between token lists are decidable and the kernel can
-- evaluate the test vector
attribute [local instance 5] instDecidableEqOfLawfulBEq

/-- the model on a concrete chain with `~`, `>>>` and `<<<` (an oracle that accepts single tokens as expressions):
    `a |> f ~=> >>> <<<` -/
example :
    let o : Oracle := { validExpr := fun ts => ts.length == 1, validType := fun _ => false, isBlock := fun _ => false,
                        letSplit := fun _ => .notLet, reprintExpr := id, reprintType := id, exprPrefix := fun _ => none,
                        pathPrefix := fun _ => none, litBool := fun _ => none }
    let toks : Toks := [.ident "a", .punct '|' true, .punct '>' false, .ident "f", .punct '~' true, .punct '=' true,
                        .punct '>' false, .punct '>' true, .punct '>' true, .punct '>' false,
                        .punct '<' true, .punct '<' true, .punct '<' false]
    (buildChain o 10 ⟨.initial, false, .none⟩ toks [] none 0 true).toOption.map
        (fun r => (r.1.members.map (fun m => (m.ctor.name, m.deferred, m.mv == .wrap, m.mv == .unwrap, m.ops.length)), r.2.length)) =
      some ([("Initial", false, false, false, 1), ("Map", false, false, false, 1), ("AndThen", true, true, false, 1),
             ("UNWRAP", false, false, true, 0)], 0) := by
  decide +kernel

/-- … and on operators with two operands and with a type operand: `a ^@ i, f =>[] T <->` -/
example :
    let o : Oracle := { validExpr := fun ts => ts.length == 1, validType := fun ts => ts.length == 1, isBlock := fun _ => false,
                        letSplit := fun _ => .notLet, reprintExpr := id, reprintType := id, exprPrefix := fun _ => none,
                        pathPrefix := fun _ => none, litBool := fun _ => none }
    let toks : Toks := [.ident "a", .punct '^' true, .punct '@' false, .ident "i", .punct ',' false, .ident "f",
                        .punct '=' true, .punct '>' false, .group .bracket [], .ident "T",
                        .punct '<' true, .punct '-' true, .punct '>' false]
    (buildChain o 10 ⟨.initial, false, .none⟩ toks [] none 0 true).toOption.map
        (fun r => (r.1.members.map (fun m => (m.ctor.name, m.ops.map (fun op => (op.kind == .type, op.toks)))), r.2.length)) =
      some ([("Initial", [(false, [.ident "a"])]), ("Fold", [(false, [.ident "i"]), (false, [.ident "f"])]),
             ("Collect", [(true, [.ident "T"])]), ("Unzip", [])], 0) := by
  decide +kernel

end JoinModel.Props.C14
