/-
  C08 — thread-spawning macros: one live, named thread per active branch; and the thread half of C03
  (step barrier under every interleaving).
-/
import JoinModel.Lemmas.LinLoop
import JoinModel.Props.Common
namespace JoinModel.Props.C08
open JoinModel JoinModel.Props

/-- A step with more than one active branch in a thread-spawning macro forks exactly one thread per active
    branch, in branch order, the thread of branch b named `<caller>_join_<b>` (`join_<b>` for an unnamed caller),
    before joining any of them. -/
theorem fork_count_names (sc : SpecCfg) (k : Nat) (vals : List (Option Value)) (vis : List (String × Value))
    (bcs : List (Nat × List Value)) :
    ∃ joins, (specChainsFork sc k vals vis bcs).trace = forksOf (stepThreads sc k vals vis bcs) ++ joins ∧
      ∀ e ∈ joins, ∃ b, e = .join b k := by
  obtain ⟨n, htr, -⟩ := specChainsFork_trace sc k vals vis bcs
  refine ⟨_, htr, fun e he => ?_⟩
  obtain ⟨j, hj, rfl⟩ := List.mem_map.mp he
  rw [stepThreads_ids] at hj
  obtain ⟨b, -, rfl⟩ := List.mem_map.mp (List.mem_of_mem_take hj)
  exact ⟨b, rfl⟩

theorem threadName_documented (p : String) (b : Nat) :
    threadName (some p) b = p ++ "_" ++ ("join_" ++ Nat.repr b) ∧ threadName none b = "join_" ++ Nat.repr b := ⟨rfl, rfl⟩

/-- nesting: a spawn macro inside the thread of branch 2 of a macro called on `main` names its branch 0 thread … -/
example : threadName (some (threadName (some "main") 2)) 0 = "main_join_2_join_0" := by decide

theorem nodup_map_pair (l : List Nat) (k : Nat) (h : l.Nodup) : (l.map fun b => (b, k)).Nodup :=
  List.Pairwise.map _ (fun a b h => by simpa using h) h

/-- distinct branches, hence distinct threads -/
theorem thread_ids_distinct (sc : SpecCfg) (k : Nat) (vals : List (Option Value)) (vis : List (String × Value))
    (caps : List (List Value)) (hl : (sc.active k).length = caps.length) :
    ((asRun (stepThreads sc k vals vis ((sc.active k).zip caps))).map Prod.fst).Nodup := by
  rw [stepThreads_ids, List.map_fst_zip (Nat.le_of_eq hl)]
  exact nodup_map_pair _ k (active_nodup sc k)

/-- A step with a single active branch forks nothing: its chain runs on the calling thread. -/
theorem single_branch_on_caller (sc : SpecCfg) (k : Nat) (vals : List (Option Value)) (vis : List (String × Value))
    (act : List Nat) (caps : List (List Value)) (h1 : act.length ≤ 1) :
    specChains sc k vals vis act caps = specChainsSeq sc k vals vis (act.zip caps) := by
  simp only [specChains]
  have : decide (act.length > 1) = false := by simp; omega
  simp [this]

/-- a fork event never occurs in a sequentially evaluated step -/
theorem seq_step_no_fork (sc : SpecCfg) (k : Nat) (vals : List (Option Value)) (vis : List (String × Value))
    (bcs : List (Nat × List Value)) :
    ∀ e ∈ (specChainsSeq sc k vals vis bcs).trace, ∃ e', e = .ev e' := by
  intro x hx
  obtain ⟨_, _, e, _, rfl⟩ := specChainsSeq_trace sc k vals vis bcs x hx
  exact ⟨e, rfl⟩

/-- **Barrier under every schedule** (`Lin`, Lemmas/Lin.lean): the caller forks the threads of a step, joins all of them,
    then continues with `rest` (later steps, handler).  In *every* global order of events all events of this step's
    threads — an arbitrary interleaving `t1` of the bodies, each complete — come before every event of `rest`: nothing of
    step k+1 starts before every branch of step k has finished. -/
theorem step_barrier_all_schedules (fs : List (Tid × String × List Ev)) (rest : List MEv) (t : List TEv)
    (hnd : ((asRun fs).map Prod.fst).Nodup)
    (h : Lin (forksOf fs ++ joinsOf ((asRun fs).map Prod.fst) ++ rest) [] t) :
    ∃ t1 t2, t = t1 ++ t2 ∧ Shuffle (asRun fs) t1 ∧ Lin rest [] t2 :=
  barrier fs rest t hnd h

/-! ### every interleaving of the sibling threads is possible: none waits for a sibling -/

theorem lin_joins_of_shuffle (run : List (Tid × List Ev)) (t : List TEv) (h : Shuffle run t) :
    Lin (joinsOf (run.map Prod.fst)) run t :=
  h.lin

theorem lin_forks (fs : List (Tid × String × List Ev)) (main : List MEv) (run : List (Tid × List Ev)) (t : List TEv)
    (h : Lin main (run ++ asRun fs) t) : Lin (forksOf fs ++ main) run t := by
  induction fs generalizing run with
  | nil => simpa [forksOf, asRun] using h
  | cons f fs ih =>
    obtain ⟨⟨b, k⟩, name, body⟩ := f
    simp only [forksOf, List.map_cons, List.cons_append]
    apply Lin.fork
    apply ih
    simpa [asRun, List.append_assoc] using h

/-- All n threads of a step are alive at the same time and none waits for a sibling: *every* interleaving of the
    thread bodies is a possible schedule of "fork all, join all" (all forks precede all joins on the caller). -/
theorem siblings_unordered (fs : List (Tid × String × List Ev)) (t1 : List TEv) (h : Shuffle (asRun fs) t1) :
    Lin (forksOf fs ++ joinsOf ((asRun fs).map Prod.fst)) [] t1 := by
  apply lin_forks
  simpa using lin_joins_of_shuffle (asRun fs) t1 h

end JoinModel.Props.C08
