/-
  C15 — expansion is total: valid code or a diagnostic, never an internal panic.

  In the model pipeline every `expect()` / `unwrap()` / `panic!` site of the generator is an explicit outcome
  (`GenErr.internal`).  `no_internal_bug`: on a program whose steps are balanced (no `<<<` without an open `>>>` *in the same
  step* — what the chain builder enforces since /repo 225b285) and whose members have the operand counts the parser produces,
  the generator returns code or a whitelisted configuration rejection.  What the parser model accepts is such a program
  (`parse_wellformed`), hence `expansion_total`; the parser's loops never run out of fuel (`expansion_terminates`).  That every
  structurally invalid input is rejected *with a message* is decided by K1 with the implementation-side oracle
  (tools/props.py `judge_total`).
-/
import JoinModel.Lemmas.Nest
import JoinModel.Lemmas.GenFacts
import JoinModel.Lemmas.TokCount
import JoinModel.Lemmas.ParseSpec
import JoinModel.SpecTables
namespace JoinModel.Props.C15
open JoinModel

/-- running `>>>`/`<<<` balance of a step's actions never drops below zero -/
def balanced : List Member → Nat → Bool
  | [], _ => true
  | m :: ms, d =>
    match m.mv with
    | .wrap => balanced ms (d + 1)
    | .unwrap => decide (0 < d) && balanced ms (d - 1)
    | .none => balanced ms d

/-- operand counts as the parser builds them (table T6 = README, Props/C01 `arity_documented`) -/
def arityOK (m : Member) : Bool :=
  match m.mv with
  | .unwrap => true
  | .wrap => m.ops.length == 1 && SpecTables.wrappers.contains m.ctor
  | .none =>
    m.ctor != .unwrap &&
    (m.ops.length == (SpecTables.arity m.ctor).count || ((SpecTables.arity m.ctor).allowEmpty && m.ops.isEmpty))

theorem hoist_length (b e : Nat) (m : Member) : (hoist b e m).2.length = m.ops.length := by
  unfold hoist
  split <;> simp

theorem emit_has_template : ∀ c ∈ Comb.all, c ≠ .unwrap → c ≠ .inspect →
    ((emitRow c (SpecTables.arity c).count).bind id).isSome = true ∧
    ((SpecTables.arity c).allowEmpty = true → ((emitRow c 0).bind id).isSome = true) := by decide

theorem applyCtor_ok (a : Bool) (prev : Toks) (c : Comb) (ops : List Toks) (hc : c ≠ .unwrap)
    (h : ops.length = (SpecTables.arity c).count ∨ ((SpecTables.arity c).allowEmpty = true ∧ ops = [])) :
    ∃ t, applyCtor a prev c ops = .ok t := by
  by_cases hi : c = .inspect
  · subst hi
    obtain ⟨e, rfl⟩ : ∃ e, ops = [e] := by
      rcases h with h | ⟨h, _⟩
      · exact List.length_eq_one_iff.mp h
      · cases h
    cases a <;> exact ⟨_, rfl⟩
  · obtain ⟨h1, h2⟩ := emit_has_template c (Comb.mem_all c) hc hi
    obtain ⟨r, hr⟩ : ∃ r, emitTokens c ops = .ok r := emitTokens_ok (by
      rcases h with h | ⟨h, rfl⟩
      · rw [h]; exact h1
      · exact h2 h)
    unfold applyCtor
    split
    · exact ⟨_, by rw [hr]; rfl⟩
    · exact ⟨_, by rw [hr]; rfl⟩
    · exact absurd rfl hi
    · exact ⟨_, by rw [hr]; rfl⟩
theorem wrappers_unary : ∀ c ∈ SpecTables.wrappers, (SpecTables.arity c).count = 1 ∧ c ≠ .unwrap := by decide

/-- `nestGo` is the generator's stack machine as a recursive descent (Props/C02 `step_expr_nested`); it reports an explicit
    close only inside an open wrapper. -/
theorem nestGo_ok (a : Bool) (b : Nat) (fuel : Nat) : ∀ (cur : Toks) (ms : List Member) (e : Nat) (defs : List CapDef) (d : Nat),
    ms.length + 1 ≤ fuel → balanced ms d = true → (∀ m ∈ ms, arityOK m = true) →
    ∃ r, nestGo a b fuel cur ms e defs = .ok r ∧ (r.closed = true → 0 < d ∧ balanced r.rest (d - 1) = true) ∧
      (∀ m ∈ r.rest, arityOK m = true) := by
  induction fuel with
  | zero => intro cur ms e defs d hf; omega
  | succ n ih =>
    intro cur ms e defs d hf hb ha
    cases ms with
    | nil => exact ⟨⟨cur, [], e, defs, false⟩, rfl, by simp, by simp⟩
    | cons m ms =>
      have hf' : ms.length + 1 ≤ n := by simp at hf; omega
      have ham : arityOK m = true := ha m (by simp)
      have harest : ∀ m' ∈ ms, arityOK m' = true := fun m' hm' => ha m' (by simp [hm'])
      simp only [nestGo]
      cases hmv : m.mv with
      | none =>
        simp only [balanced, hmv] at hb
        simp only [arityOK, hmv, Bool.and_eq_true, bne_iff_ne, ne_eq, Bool.or_eq_true, beq_iff_eq,
          List.isEmpty_iff] at ham
        obtain ⟨t, ht⟩ := applyCtor_ok a cur m.ctor (hoist b e m).2 ham.1 (by
          rw [hoist_length]
          exact ham.2.imp_right fun ⟨h1, h2⟩ => ⟨h1, List.eq_nil_of_length_eq_zero (by rw [hoist_length, h2]; rfl)⟩)
        simp only [ht]
        exact ih t ms (e + 1) _ d hf' hb harest
      | unwrap =>
        simp only [balanced, hmv, Bool.and_eq_true, decide_eq_true_eq] at hb
        exact ⟨⟨cur, ms, e + 1, defs, true⟩, rfl, fun _ => ⟨hb.1, hb.2⟩, harest⟩
      | wrap =>
        simp only [balanced, hmv] at hb
        simp only [arityOK, hmv, Bool.and_eq_true, beq_iff_eq] at ham
        -- the inner descent runs one level deeper; when it reports a `<<<`, what it left is balanced at this level (`hclosed`)
        obtain ⟨rin, hrin, hclosed, harin⟩ := ih [Var.v.tok] ms (e + 1) defs (d + 1) hf' hb harest
        simp only [hrin]
        have hwu := wrappers_unary m.ctor (by simpa using ham.2)
        obtain ⟨t, ht⟩ := applyCtor_ok a cur m.ctor [closureToks rin.toks] hwu.2 (Or.inl (by simp [hwu.1]))
        have hw : applyWrapper a cur m rin.toks = .ok t := by simp [applyWrapper, ham.1, ht]
        simp only [hw]
        have hrl := (nestGo_rest_suffix hrin).length_le
        by_cases hc : rin.closed = true
        · obtain ⟨_, hbal⟩ := hclosed hc
          simp only [Nat.add_sub_cancel] at hbal
          exact ih t rin.rest rin.pos rin.defs d (by omega) hbal harin
        · have hrest := nestGo_open_rest hrin (by simpa using hc)
          rw [hrest]
          -- the last call of the descent, on `[]`, still takes one unit of fuel
          cases n with
          | zero => omega
          | succ n' => exact ⟨⟨t, [], rin.pos, rin.defs, false⟩, rfl, by simp, by simp⟩

/-- **The per-branch generator never hits one of its `expect()` sites** on a balanced, parser-shaped step. -/
theorem genBranchStep_ok (a : Bool) (b : Nat) (prev : Var) (acts : List Member)
    (hb : balanced acts 0 = true) (ha : ∀ m ∈ acts, arityOK m = true) :
    ∃ r, genBranchStep a b prev acts = .ok r := by
  cases acts with
  | nil => exact ⟨none, rfl⟩
  | cons m ms =>
    obtain ⟨r, hr, hclosed, _⟩ := nestGo_ok a b ((m :: ms).length + 1) (wrapIntoBlock a [prev.tok]) (m :: ms) 0 [] 0
      (Nat.le_refl _) hb ha
    refine ⟨_, genBranchStep_ok_iff.mpr ⟨r, hr, ?_, rfl⟩⟩
    cases hcl : r.closed with
    | false => rfl
    | true => exact absurd (hclosed hcl).1 (Nat.lt_irrefl 0)

def WellFormed (p : Input) : Prop :=
  ∀ br ∈ p.branches, ∀ g ∈ splitSteps br.members, balanced g 0 = true ∧ ∀ m ∈ g, arityOK m = true

theorem genElems_ok (c : Ctx) (k : Nat) (actss : List (List Member)) (b0 : Nat)
    (h : ∀ acts ∈ actss, balanced acts 0 = true ∧ ∀ m ∈ acts, arityOK m = true) :
    ∃ r, genElems c k actss b0 = .ok r := by
  induction actss generalizing b0 with
  | nil => exact ⟨_, rfl⟩
  | cons acts rest ih =>
    obtain ⟨hb, ha⟩ := h acts (by simp)
    obtain ⟨r, hr⟩ := genBranchStep_ok c.kind.isAsync b0 ((c.pats[b0]?.map (·.var)).getD (.r b0)) acts hb ha
    obtain ⟨r2, hr2⟩ := ih (b0 + 1) (fun a' ha' => h a' (by simp [ha']))
    simp only [genElems, hr, hr2]
    cases r with
    | none => exact ⟨_, rfl⟩
    | some dc => exact ⟨_, rfl⟩

theorem genSteps_ok (c : Ctx) (rem k : Nat)
    (h : ∀ k', ∀ acts ∈ c.stepActs k', balanced acts 0 = true ∧ ∀ m ∈ acts, arityOK m = true) :
    ∃ s, genSteps c rem k = .ok s := by
  induction rem generalizing k with
  | zero =>
    obtain ⟨r, hr⟩ := genElems_ok c k (c.stepActs k) 0 (h k)
    simp only [genSteps, genStep, hr]
    exact ⟨_, rfl⟩
  | succ rem ih =>
    obtain ⟨r, hr⟩ := genElems_ok c k (c.stepActs k) 0 (h k)
    obtain ⟨s, hs⟩ := ih (k + 1)
    simp only [genSteps, genStep, hr, hs]
    exact ⟨_, rfl⟩

/-- **No internal bug.**  For every well-formed program and every macro kind the generator returns code or one of the
    four whitelisted configuration rejections (wrong handler kind, `futures_crate_path` on a non-async macro, no
    branch) — never an internal panic. -/
theorem no_internal_bug (p : Input) (kind : Kind) (hwf : WellFormed p) :
    (∃ code, gen p kind = .ok code) ∨ (∃ e, gen p kind = .error e ∧ e.isReject = true) := by
  unfold gen
  cases hm : mkCtx p kind with
  | error e => exact .inr ⟨e, rfl, mkCtx_error hm⟩
  | ok c =>
    have hsteps : ∀ k', ∀ acts ∈ c.stepActs k', balanced acts 0 = true ∧ ∀ m ∈ acts, arityOK m = true := by
      intro k' acts hacts
      rcases mem_stepActs hm hacts with rfl | ⟨br, hbr, hg⟩
      · simp [balanced]
      · exact hwf br hbr acts hg
    obtain ⟨s, hs⟩ := genSteps_ok c (c.maxSteps - 1) 0 hsteps
    simp only [(mkCtx_maxSteps hm).2, if_false, hs]
    exact .inl ⟨_, rfl⟩

/-! ### The parser half: everything the parser accepts is well-formed

  `Lemmas/ParseSpec.lean` shows what the parser model can return, for every oracle: members of table shape and a `>>>`/`<<<`
  balance — reset at each `~` — that never drops below zero.  Two facts about the *extracted* tables, checked row by row, and
  `chk_balanced` connect that with `WellFormed`. -/

theorem wrapperCtor_in_spec (c : Comb) :
    (match wrapperCtorOf c with | some ctor => SpecTables.wrappers.contains ctor | none => true) = true := by
  cases c <;> rfl

theorem arity_in_spec (c : Comb) (hc : c ≠ .unwrap) :
    (match arityOf c with
      | some ar => ar.ctor != .unwrap && (SpecTables.arity ar.ctor).count == ar.count &&
          (!ar.allowEmpty || (SpecTables.arity ar.ctor).allowEmpty)
      | none => true) = true := by
  cases c <;> first | rfl | exact absurd rfl hc

theorem shape_arityOK (m : Member) (h : MemberShape m) : arityOK m = true := by
  unfold MemberShape at h
  unfold arityOK
  cases hmv : m.mv with
  | unwrap => rfl
  | wrap =>
    rw [hmv] at h
    obtain ⟨⟨c, hc⟩, hl⟩ := h
    -- `MemberShape` is in terms of the extracted tables, `arityOK` of the documented ones: the two table facts above connect them
    have := wrapperCtor_in_spec c
    rw [hc] at this
    simp only at this
    simp only [hl, this, beq_self_eq_true, Bool.and_self]
  | none =>
    rw [hmv] at h
    obtain ⟨c, ar, har, hcu, hctor, hl⟩ := h
    have := arity_in_spec c hcu
    rw [har] at this
    simp only [Bool.and_eq_true, Bool.or_eq_true, Bool.not_eq_true', beq_iff_eq] at this
    obtain ⟨⟨h1, h2⟩, h3⟩ := this
    simp only [hctor, h1, Bool.true_and, Bool.or_eq_true, Bool.and_eq_true, beq_iff_eq, List.isEmpty_iff]
    rcases hl with hl | ⟨ha, hl⟩
    · exact Or.inl (by rw [hl, h2])
    · refine Or.inr ⟨?_, hl⟩
      rcases h3 with h3 | h3
      · rw [ha] at h3; cases h3
      · exact h3

/-- one member of a step in the builder's terms: the balance in front of it, `w`, is not negative -/
theorem balanced_cons (m : Member) (ms : List Member) {w : Int} (hw : 0 ≤ w) :
    balanced (m :: ms) w.toNat = (decide (0 ≤ w + mvDelta m.mv) && balanced ms (w + mvDelta m.mv).toNat) := by
  cases hmv : m.mv <;> simp only [balanced, hmv]
  · rw [show (w + mvDelta .wrap).toNat = w.toNat + 1 by simp only [mvDelta]; omega,
      decide_eq_true (by simp only [mvDelta]; omega), Bool.true_and]
  · rw [show (w + mvDelta .unwrap).toNat = w.toNat - 1 by simp only [mvDelta]; omega]
    congr 1
    exact decide_eq_decide.2 (by simp only [mvDelta]; omega)
  · rw [show w + mvDelta .none = w from Int.add_zero w, decide_eq_true hw, Bool.true_and]

/-- the builder's running balance, reset at each `~`, is the per-step balance of the generator's step split -/
theorem chk_balanced : ∀ (ms : List Member) (w : Int), 0 ≤ w → chk w ms = true →
    ∀ g gs, splitSteps ms = g :: gs → balanced g w.toNat = true ∧ ∀ g' ∈ gs, balanced g' 0 = true
  | [], w, _, _, g, gs, h => by
    cases h
    exact ⟨rfl, fun _ h => nomatch h⟩
  | m :: ms, w, hw, hc, g, gs, h => by
    obtain ⟨g0, gs0, hs, hs'⟩ := splitSteps_cons m ms
    rw [chk, Bool.and_eq_true] at hc
    have ih := chk_balanced ms _ (of_decide_eq_true hc.1) hc.2 g0 gs0 hs
    rw [hs'] at h
    cases hd : m.deferred <;> simp only [hd, Bool.false_eq_true, if_false, if_true] at h ih hc <;> cases h
    · exact ⟨by rw [balanced_cons m g0 hw, hc.1, ih.1]; rfl, ih.2⟩
    · refine ⟨rfl, fun g' hg' => ?_⟩
      rcases List.mem_cons.mp hg' with rfl | hg'
      · rw [← Int.toNat_zero, balanced_cons m g0 (Int.le_refl 0), hc.1, ih.1]; rfl
      · exact ih.2 g' hg'

/-- **The parser only accepts well-formed programs** — for every oracle, i.e. whatever syn answers. -/
theorem parse_wellformed (o : Oracle) (toks : Toks) (p : Input) (h : parseMacroInput o toks = .ok p) : WellFormed p := by
  obtain ⟨_, hb⟩ := parseMacroInput_ok o toks p h
  intro br hbr g hg
  obtain ⟨hsh, hchk⟩ := hb br hbr
  cases hs : splitSteps br.members with
  | nil => exact absurd hs (splitSteps_ne_nil _)
  | cons g0 gs0 =>
    obtain ⟨h0, hrest⟩ := chk_balanced br.members 0 (Int.le_refl 0) hchk g0 gs0 hs
    rw [hs] at hg
    refine ⟨?_, ?_⟩
    · rcases List.mem_cons.mp hg with rfl | hg
      · exact h0
      · exact hrest g hg
    · intro m hm
      exact shape_arityOK m (hsh m ((splitSteps_mem br.members g (hs ▸ hg)).1 m hm))

/-- **Expansion is total.**  For every token list, every behaviour of syn (oracle) and every macro kind, the pipeline
    parser → generator ends with a parser error, with the generator rejecting the configuration (wrong handler kind,
    `futures_crate_path` on a non-async macro), or with code — never with an internal error (an
    `expect`/`unwrap`/`panic!`/`unreachable!` site of the generator). -/
theorem expansion_total (o : Oracle) (toks : Toks) (kind : Kind) :
    (∃ e, parseMacroInput o toks = .error e) ∨
    ∃ p, parseMacroInput o toks = .ok p ∧
      ((∃ code, gen p kind = .ok code) ∨ ∃ e, gen p kind = .error e ∧ e.isReject = true) := by
  cases h : parseMacroInput o toks with
  | error e => exact Or.inl ⟨e, rfl⟩
  | ok p => exact Or.inr ⟨p, rfl, no_internal_bug p kind (parse_wellformed o toks p h)⟩

/-- **Expansion terminates.**  Every loop of the parser model carries fuel, and running out of it is the outcome
    `.syn "fuel"`; that outcome never occurs: each iteration of the scan of `parse_until`, of the chain builder and of the
    branch/handler loop consumes at least one token tree.  The one fact about syn this needs — the empty token stream is
    not an expression — is checked against syn itself on every run (harness mode `synfacts`).  (The generator is
    structurally recursive over the parsed program.) -/
theorem expansion_terminates (o : Oracle) (hempty : o.validExpr [] = false) (toks : Toks) :
    parseMacroInput o toks ≠ .error (.syn "fuel") :=
  parse_never_out_of_fuel o hempty toks

/-- totality and termination together: the three outcomes of `expansion_total`, and the parser's error is never the
    model's own out-of-fuel artefact -/
theorem expansion_total_terminating (o : Oracle) (hempty : o.validExpr [] = false) (toks : Toks) (kind : Kind) :
    (∃ e, parseMacroInput o toks = .error e ∧ e ≠ .syn "fuel") ∨
    ∃ p, parseMacroInput o toks = .ok p ∧
      ((∃ code, gen p kind = .ok code) ∨ ∃ e, gen p kind = .error e ∧ e.isReject = true) := by
  rcases expansion_total o toks kind with ⟨e, he⟩ | h
  · exact Or.inl ⟨e, he, fun hf => expansion_terminates o hempty toks (by rw [he, hf])⟩
  · exact Or.inr h

/-! Non-vacuity.  The steps of `init |> >>> ..b() <<< ~=> c` are balanced and parser-shaped; the second step of
    `a => >>> |> f ~<<< |> g` (the input behind the defect fixed in /repo 225b285) is not balanced: the parser rejects it
    (K1 family `invalid`). -/

private def mk (c : Comb) (d : Bool) (mv : Move) (n : Nat) : Member := ⟨c, d, mv, List.replicate n ⟨.expr, []⟩⟩

example : (splitSteps [mk .initial false .none 1, mk .map false .wrap 1, mk .dot false .none 1, mk .unwrap false .unwrap 0,
      mk .andThen true .none 1]).map (fun g => (balanced g 0, g.all arityOK)) = [(true, true), (true, true)] := by decide

example : (splitSteps [mk .initial false .none 1, mk .andThen false .wrap 1, mk .map false .none 1, mk .unwrap true .unwrap 0,
      mk .map false .none 1]).map (fun g => balanced g 0) = [true, false] := by decide

/-- the premise of `expansion_terminates` is satisfiable, and the three outcomes all occur: `a |> f` is accepted and
    generates code, `<<<` alone is rejected by the parser (an oracle that accepts single tokens as expressions) -/
example :
    let o : Oracle := { validExpr := fun ts => ts.length == 1, validType := fun _ => false, isBlock := fun _ => false,
                        letSplit := fun _ => .notLet, reprintExpr := id, reprintType := id, exprPrefix := fun _ => none,
                        pathPrefix := fun _ => none, litBool := fun _ => none }
    o.validExpr [] = false ∧
    ((parseMacroInput o [.ident "a", .punct '|' true, .punct '>' false, .ident "f"]).toOption.map
        (fun p => (gen p ⟨false, false, false⟩).toOption.isSome)) = some true ∧
    (parseMacroInput o [.ident "a", .punct '<' true, .punct '<' true, .punct '<' false]).toOption.isSome = false := by
  decide +kernel

end JoinModel.Props.C15
