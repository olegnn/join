/-
  C13 — handlers: map / and_then only on success, then always, exactly once.
  The last section is about the parser model: one handler may stand anywhere among the branches
  (`handler_anywhere`), a second one is rejected (`second_handler_rejected`); it builds on the chain round trip of
  Props/C14.
-/
import JoinModel.Props.Common
import JoinModel.Props.C14
namespace JoinModel.Props.C13
open JoinModel JoinModel.Props

def callOnce (sc : SpecCfg) (vs : List Value) : M Value :=
  (M.tell [.ev (.handlerCall vs)]).andThen fun _ => M.lift (sc.σ.handlerCall vs).toRes

/-- `then => f` (non-try macros): f is called exactly once with the raw values; its value is the macro's value. -/
theorem then_semantics (sc : SpecCfg) (vs : List Value) :
    specHandle sc (some .then_) (.vals vs) = callOnce sc vs := rfl

/-- `map => f` (try macros): on success f is called exactly once with the unwrapped values, result `Ok(f(..))`;
    on failure f is not called and the failing value is returned. -/
theorem map_semantics (sc : SpecCfg) (vs : List Value) (v : Value) :
    specHandle sc (some .map) (.vals vs) = (callOnce sc vs).andThen (fun r => M.ret (.succ r)) ∧
    specHandle sc (some .map) (.failed v) = M.ret v := ⟨rfl, rfl⟩

/-- `and_then => f` (try macros): on success the macro's value is f(..) itself; on failure f is not called. -/
theorem and_then_semantics (sc : SpecCfg) (vs : List Value) (v : Value) :
    specHandle sc (some .andThen) (.vals vs) = callOnce sc vs ∧
    specHandle sc (some .andThen) (.failed v) = M.ret v := ⟨rfl, rfl⟩

/-- exactly one call event, carrying the values in branch order -/
theorem call_trace (sc : SpecCfg) (vs : List Value) : (callOnce sc vs).trace = [.ev (.handlerCall vs)] := by
  simp only [callOnce, M.tell_andThen, M.pre, M.lift]
  rfl

/-- **From the tokens to the handler call** (`then => f`, non-try macros): for whatever the parser accepts (any behaviour of
    syn; default options), the expanded code defines the handler first, runs the step loop, calls the handler exactly once —
    last — with the loop's values in branch order, and returns what the handler returned (or panics with it). -/
theorem accepted_then_handler (o : Oracle) (toks : Toks) (σ : World) (parent : Option String) (p : Input) (kind : Kind)
    (code : Code) (hparse : parseMacroInput o toks = .ok p) (hd : PlainInvocation p kind) (hgen : gen p kind = .ok code)
    (t : Toks) (hh : p.handler = some (.then_, t)) (hdef : σ.handlerDef = .ok ()) (vs : List Value)
    (h : (loopOf σ parent p kind).res = .ok (.vals vs)) :
    (evalCode σ parent code).res = (σ.handlerCall vs).toRes ∧
    (evalCode σ parent code).trace =
      [.ev .handlerDef] ++ (loopOf σ parent p kind).trace ++ [.ev (.handlerCall vs)] := by
  rw [accepted_eq_reference o toks σ parent p kind code hparse hd hgen, specRun_eq]
  have hσ : (cfgFor σ parent p kind).σ = σ := rfl
  generalize hl : loopOf σ parent p kind = l at h
  obtain ⟨lt, lr⟩ := l
  simp only at h
  subst h
  simp [handlerDefOf, hh, hdef, M.andThen, M.tell, M.lift, UR.toRes, specHandle, hσ]

/-- A handler of the wrong kind for the macro is rejected at expansion time, and only then. -/
theorem handler_kind_rejected (p : Input) (kind : Kind) :
    (gen p kind = .error .handlerNotTry ↔ (kind.isTry = false ∧ p.isMapOrAndThen = true)) ∧
    (gen p kind = .error .thenInTry ↔ (kind.isTry = true ∧ p.isThen = true)) := by
  -- of `gen`'s failures only `mkCtx`'s can be one of these two: `genSteps` fails with `.internal`, the third one is `.noSteps`
  have key : ∀ (e : GenErr), (e = .handlerNotTry ∨ e = .thenInTry) →
      (gen p kind = .error e ↔ mkCtx p kind = .error e) := by
    intro e he
    unfold gen
    cases hm : mkCtx p kind with
    | error e' => simp
    | ok c =>
      simp only
      split
      · rcases he with rfl | rfl <;> simp
      · cases hs : genSteps c (c.maxSteps - 1) 0 with
        | ok steps => simp
        | error e' =>
          simp only [Except.error.injEq, reduceCtorEq, iff_false]
          intro heq; subst heq
          obtain ⟨ce, hce⟩ := genSteps_err c _ _ _ hs
          rcases he with rfl | rfl <;> cases hce
  -- the second test is reached past the first only: the extra conjunct, which the closing case split shows to be implied
  have hm : (mkCtx p kind = .error .handlerNotTry ↔ (!kind.isTry && p.isMapOrAndThen) = true) ∧
      (mkCtx p kind = .error .thenInTry ↔ (!kind.isTry && p.isMapOrAndThen) = false ∧ (kind.isTry && p.isThen) = true) := by
    unfold mkCtx
    by_cases h1 : (!kind.isTry && p.isMapOrAndThen) = true
    · rw [if_pos h1]; simp [h1]
    rw [if_neg h1]
    by_cases h2 : (kind.isTry && p.isThen) = true
    · rw [if_pos h2]; simp [h1, h2]
    rw [if_neg h2]
    by_cases h3 : (!kind.isAsync && p.fcp.isSome) = true
    · rw [if_pos h3]; simp [h1, h2]
    rw [if_neg h3]
    by_cases h4 : p.branches.isEmpty = true
    · rw [if_pos h4]; simp [h1, h2]
    · rw [if_neg h4]; simp [h1, h2]
  rw [key _ (Or.inl rfl), key _ (Or.inr rfl), hm.1, hm.2]
  cases kind.isTry <;> cases p.isMapOrAndThen <;> cases p.isThen <;> simp

/-! ### The parser half: one handler, anywhere among the branches; a second handler is rejected

  Items are written one after the other, separated by `,`: branches (as in Props/C14 §7) and handler definitions
  `map|and_then|then => body`.  `printed` is what syn prints for the handler's expression. -/

section ParserHalf
open JoinModel.Props.C14

inductive SrcItem
  | branch (b : SrcBranch)
  | handler (k : HKind) (body : Toks) (printed : Toks)

def kwName : HKind → String
  | .map => "map"
  | .andThen => "and_then"
  | .then_ => "then"

def handlerHead (k : HKind) : Toks := [.ident (kwName k), .punct '=' true, .punct '>' false]

def renderItem (it : SrcItem) (tail : Toks) : Toks :=
  match it with
  | .branch b => b.x0 ++ renderActs tail b.acts
  | .handler k body _ => handlerHead k ++ body ++ tail

def renderItems : List SrcItem → Toks
  | [] => []
  | it :: rest => renderItem it (match rest with | [] => [] | _ :: _ => TT.punct ',' false :: renderItems rest)

def sepTail (rest : List SrcItem) : Toks :=
  match rest with
  | [] => []
  | _ :: _ => TT.punct ',' false :: renderItems rest

theorem renderItems_cons (it : SrcItem) (rest : List SrcItem) : renderItems (it :: rest) = renderItem it (sepTail rest) := by
  cases rest <;> rfl

/-- a branch is well-formed in front of what follows it and does not start like a handler (Props/C14 `BranchesOK`);
    syn reads a handler's expression up to the separating comma -/
def ItemOK1 (o : Oracle) (it : SrcItem) (tail whole : Toks) : Prop :=
  match it with
  | .branch b => OperandOK o b.x0 (renderActs tail b.acts) ∧ o.letSplit b.x0 = .notLet ∧ ActsOK o tail b.acts ∧
      BalanceOK 0 b.acts ∧ handlerKw whole = none ∧ b.acts.length ≤ whole.length ∧ whole ≠ []
  | .handler _ body e => o.exprPrefix (body ++ tail) = some (body.length, e)

def ItemsOK (o : Oracle) : List SrcItem → Prop
  | [] => True
  | it :: rest => ItemOK1 o it (sepTail rest) (renderItems (it :: rest)) ∧ ItemsOK o rest

/-- the handler slot while the items are read: `none` = a second handler was met -/
def handlerFold : Option (HKind × Toks) → List SrcItem → Option (Option (HKind × Toks))
  | h, [] => some h
  | h, .branch _ :: its => handlerFold h its
  | none, .handler k _ e :: its => handlerFold (some (k, e)) its
  | some _, .handler _ _ _ :: _ => none

def branchesOf (o : Oracle) : List SrcItem → List Branch
  | [] => []
  | .branch b :: its => expBranch o b :: branchesOf o its
  | .handler _ _ _ :: its => branchesOf o its

theorem handlerKw_head (k : HKind) (rest : Toks) : handlerKw (handlerHead k ++ rest) = some k := by
  cases k <;> simp [handlerKw, handlerHead, kwName, checkSeq, peekPat, peekPunct, skip1]

theorem afterTerm_sepTail (rest : List SrcItem) : afterTerm (sepTail rest) = renderItems rest := by
  cases rest <;> simp [afterTerm, sepTail, eatComma, renderItems]

/-- **The item loop.**  Branches and handler definitions in any arrangement: the loop returns the branches in the order
    written and the handler, or the `MultipleHandlers` error as soon as a second handler definition is met. -/
theorem items_roundtrip_partial (o : Oracle) (items : List SrcItem) :
    ∀ (acc : List Branch) (h : Option (HKind × Toks)) (fuel : Nat), ItemsOK o items → items.length + 1 ≤ fuel →
      parseItems o fuel (renderItems items) acc h =
        (match handlerFold h items with
          | none => .error .multipleHandlers
          | some h' => .ok (acc ++ branchesOf o items, h')) := by
  induction items with
  | nil =>
    intro acc h fuel _ hf
    obtain ⟨fuel, rfl⟩ : ∃ f, fuel = f + 1 := ⟨fuel - 1, by simp at hf; omega⟩
    simp [renderItems, parseItems, handlerFold, branchesOf]
  | cons it rest ih =>
    intro acc h fuel hok hf
    obtain ⟨fuel, rfl⟩ : ∃ f, fuel = f + 1 := ⟨fuel - 1, by simp at hf; omega⟩
    obtain ⟨h1, hrest⟩ := hok
    rw [renderItems_cons] at h1 ⊢
    cases it with
    | branch b =>
      rw [show renderItem (.branch b) (sepTail rest) = b.x0 ++ renderActs (sepTail rest) b.acts from rfl,
        parseItems_branch o b _ acc h fuel h1, afterTerm_sepTail,
        ih (acc ++ [expBranch o b]) h fuel hrest (by simp at hf ⊢; omega)]
      simp only [handlerFold, branchesOf]
      cases handlerFold h rest <;> simp [List.append_assoc]
    | handler k body e =>
      have hkw : handlerKw (TT.ident (kwName k) :: TT.punct '=' true :: TT.punct '>' false :: (body ++ sepTail rest)) = some k :=
        handlerKw_head k _
      -- spelled out as a cons: `parseItems` matches on `[]` first, and `handlerHead k ++ …` is none syntactically
      show parseItems o (fuel + 1) (TT.ident (kwName k) :: TT.punct '=' true :: TT.punct '>' false :: (body ++ sepTail rest))
        acc h = _
      cases h with
      | some h0 => simp [parseItems, hkw, handlerFold]
      | none =>
        have hph : parseHandlerItem o (TT.ident (kwName k) :: TT.punct '=' true :: TT.punct '>' false :: (body ++ sepTail rest)) =
            .ok ((k, e), renderItems rest) := by
          simp only [parseHandlerItem, hkw, List.drop_succ_cons, List.drop_zero, show o.exprPrefix (body ++ sepTail rest) = _ from h1,
            List.drop_left]
          exact congrArg (fun r => Except.ok ((k, e), r)) (afterTerm_sepTail rest)
        simp only [parseItems, hkw, hph, Option.isSome_some, if_true, Option.isSome_none, Bool.false_eq_true, if_false]
        rw [ih acc (some (k, e)) fuel hrest (by simp at hf ⊢; omega)]
        rfl

theorem renderActs_len (term : Toks) (acts : List SrcAct) : term.length ≤ (renderActs term acts).length :=
  term_le_renderActs term acts

theorem items_len (o : Oracle) : ∀ items : List SrcItem, ItemsOK o items → items.length ≤ (renderItems items).length := by
  intro items
  induction items with
  | nil => exact fun _ => Nat.le_refl _
  | cons it rest ih =>
    intro ⟨h1, hrest⟩
    have hr := ih hrest
    rw [renderItems_cons] at h1 ⊢
    -- an item has a token of its own (a branch: unless it is the last one, by the comma behind it)
    cases it with
    | handler k body e =>
      cases rest <;> simp only [renderItem, handlerHead, sepTail, List.length_append, List.length_cons, List.length_nil] at hr ⊢ <;> omega
    | branch b =>
      have hl := term_le_renderActs (sepTail rest) b.acts
      have hpos := List.length_pos_iff.mpr h1.2.2.2.2.2.2
      cases rest <;> simp only [renderItem, sepTail, List.length_append, List.length_cons, List.length_nil] at hr hl hpos ⊢ <;> omega

/-- **The whole macro input**: any subset of the options in any order, then branches and handler definitions in any
    arrangement.  The result is determined by the written options (each its own field), the branches in the order
    written, and the one handler — or it is the `MultipleHandlers` / "at least 1 branch" / "unexpected token" error. -/
theorem whole_input_roundtrip_partial (o : Oracle) (its : List OptItem) (items : List SrcItem)
    (hits : ∀ it ∈ its, ItemOK o it) (hnd : (its.map (·.kw)).Nodup) (hok : ItemsOK o items)
    (hopt : optionKw (renderItems items) = none) :
    parseMacroInput o (renderOpts its ++ renderItems items) =
      (match handlerFold none items with
        | none => .error .multipleHandlers
        | some h =>
          if (branchesOf o items).isEmpty then .error .noBranch
          else if (its.foldl (applyItem o) {}).unexpected then .error (.syn "unexpected token")
          else .ok { fcp := (its.foldl (applyItem o) {}).fcp, joiner := (its.foldl (applyItem o) {}).joiner,
                     transpose := (its.foldl (applyItem o) {}).transpose, lazy := (its.foldl (applyItem o) {}).lazy,
                     handler := h, branches := branchesOf o items }) := by
  have hrounds : Tables.optionRounds = none := rfl
  unfold parseMacroInput
  simp only [hrounds]
  rw [parseOptions_renderOpts o its _ hits hnd hopt]
  simp only
  rw [items_roundtrip_partial o items [] none _ hok (by have := items_len o items hok; omega)]
  cases handlerFold none items with
  | none => rfl
  | some h => simp

theorem handlerFold_append : ∀ (l₁ l₂ : List SrcItem) (h : Option (HKind × Toks)),
    handlerFold h (l₁ ++ l₂) = (handlerFold h l₁).bind (handlerFold · l₂)
  | [], _, _ => rfl
  | .branch _ :: l₁, l₂, h => handlerFold_append l₁ l₂ h
  | .handler _ _ _ :: l₁, l₂, none => handlerFold_append l₁ l₂ _
  | .handler _ _ _ :: _, _, some _ => rfl

theorem handlerFold_of_branches {l : List SrcItem} (hl : ∀ it ∈ l, ∃ b, it = .branch b) (h : Option (HKind × Toks)) :
    handlerFold h l = some h := by
  induction l with
  | nil => rfl
  | cons x xs ih =>
    obtain ⟨b, rfl⟩ := hl x List.mem_cons_self
    exact ih fun y hy => hl y (List.mem_cons_of_mem _ hy)

theorem branchesOf_append (o : Oracle) : ∀ l₁ l₂ : List SrcItem, branchesOf o (l₁ ++ l₂) = branchesOf o l₁ ++ branchesOf o l₂
  | [], _ => rfl
  | .branch b :: l₁, l₂ => congrArg (expBranch o b :: ·) (branchesOf_append o l₁ l₂)
  | .handler _ _ _ :: l₁, l₂ => branchesOf_append o l₁ l₂

/-- **One handler, anywhere.**  With exactly one handler definition among the items — first, last or between two
    branches — the parser returns the branches in the order written and that handler: its position changes nothing. -/
theorem handler_anywhere (o : Oracle) (pre post : List SrcItem) (k : HKind) (body e : Toks)
    (hpre : ∀ it ∈ pre, ∃ b, it = .branch b) (hpost : ∀ it ∈ post, ∃ b, it = .branch b)
    (hok : ItemsOK o (pre ++ .handler k body e :: post)) (fuel : Nat) (hf : (pre ++ .handler k body e :: post).length + 1 ≤ fuel) :
    parseItems o fuel (renderItems (pre ++ .handler k body e :: post)) [] none =
      .ok (branchesOf o pre ++ branchesOf o post, some (k, e)) := by
  rw [items_roundtrip_partial o _ [] none fuel hok hf, handlerFold_append, handlerFold_of_branches hpre, branchesOf_append]
  simp [handlerFold, branchesOf, handlerFold_of_branches hpost]

/-- **A second handler is rejected**, wherever the two stand and whatever kinds they are. -/
theorem second_handler_rejected (o : Oracle) (pre mid post : List SrcItem) (k₁ k₂ : HKind) (b₁ e₁ b₂ e₂ : Toks)
    (hpre : ∀ it ∈ pre, ∃ b, it = .branch b) (hmid : ∀ it ∈ mid, ∃ b, it = .branch b)
    (hok : ItemsOK o (pre ++ .handler k₁ b₁ e₁ :: (mid ++ .handler k₂ b₂ e₂ :: post))) (fuel : Nat)
    (hf : (pre ++ .handler k₁ b₁ e₁ :: (mid ++ .handler k₂ b₂ e₂ :: post)).length + 1 ≤ fuel) :
    parseItems o fuel (renderItems (pre ++ .handler k₁ b₁ e₁ :: (mid ++ .handler k₂ b₂ e₂ :: post))) [] none =
      .error .multipleHandlers := by
  rw [items_roundtrip_partial o _ [] none fuel hok hf, handlerFold_append, handlerFold_of_branches hpre]
  simp [handlerFold, handlerFold_append, handlerFold_of_branches hmid]

-- `Lemmas/TokEq`: `==` on token trees is equality, so equations between token lists are decidable and the kernel can
-- evaluate the test vector
attribute [local instance 5] instDecidableEqOfLawfulBEq

/-- the model on concrete inputs (an oracle that accepts single tokens as expressions and reads one token as the
    handler's expression): `a, then => h, b` has two branches and the handler; `then => h, a, map => g` is rejected -/
example :
    let o : Oracle := { validExpr := fun ts => ts.length == 1, validType := fun _ => false, isBlock := fun _ => false,
                        letSplit := fun _ => .notLet, reprintExpr := id, reprintType := id,
                        exprPrefix := fun ts => match ts with | t :: _ => some (1, [t]) | [] => none,
                        pathPrefix := fun _ => none, litBool := fun _ => none }
    let h (k : String) (f : String) : Toks := [.ident k, .punct '=' true, .punct '>' false, .ident f]
    let c : Toks := [.punct ',' false]
    ((parseMacroInput o ([.ident "a"] ++ c ++ h "then" "h" ++ c ++ [.ident "b"])).toOption.map
        (fun p => (p.branches.length, p.handler.map (·.2)))) = some (2, some [.ident "h"]) ∧
    (match parseMacroInput o (h "then" "h" ++ c ++ [.ident "a"] ++ c ++ h "map" "g") with
      | .error .multipleHandlers => true
      | _ => false) = true := by
  decide +kernel

end ParserHalf

end JoinModel.Props.C13
