/-
  C17 — internal names never clash; macros nest freely.

  `Var.render` (Names.lean) builds the identifier strings from the name-format table regenerated from
  join/name_constructors.rs on every run.  Here: rendering is injective on the internal names for *all* index
  values (two-digit indices included: the separator lemma is what rules out `__ew1_11_0` = `__ew11_1_0`), and every
  internal name starts with `__`.  Size independence of the results is the refinement theorem itself (no bound
  on branches / steps / operands); "nest freely" = every theorem is ∀ user world, an inner expansion being an
  opaque atom of the outer one, + closedness of the generated code (it never gets stuck on an unbound name).
-/
import JoinModel.Names
import JoinModel.Refinement
namespace JoinModel.Props.C17
open JoinModel

def digits (n : Nat) : List Char := Nat.toDigits 10 n

theorem digits_digit (n : Nat) : ∀ c ∈ digits n, c.isDigit = true :=
  fun _ hc => Nat.isDigit_of_mem_toDigits (by decide) (by decide) hc

theorem digits_inj {m n : Nat} (h : digits m = digits n) : m = n := by
  rw [← Nat.ofDigitChars_ten_toDigits (n := m), ← Nat.ofDigitChars_ten_toDigits (n := n)]
  exact congrArg (Nat.ofDigitChars 10 · 0) h

theorem digits_ne_nil (n : Nat) : digits n ≠ [] := Nat.toDigits_ne_nil

/-- **Separator lemma.**  Digit strings followed by `_` split uniquely: the historical clash between
    (branch 1, action 11) and (branch 11, action 1) cannot happen. -/
theorem split_at_underscore (d1 d2 r1 r2 : List Char) (h1 : ∀ c ∈ d1, c.isDigit = true) (h2 : ∀ c ∈ d2, c.isDigit = true)
    (h : d1 ++ '_' :: r1 = d2 ++ '_' :: r2) : d1 = d2 ∧ r1 = r2 := by
  -- the digit string is the longest prefix of digits
  have key (d r : List Char) (hd : ∀ c ∈ d, c.isDigit = true) : (d ++ '_' :: r).takeWhile Char.isDigit = d := by
    rw [List.takeWhile_append_of_pos hd, List.takeWhile_cons_of_neg (by decide), List.append_nil]
  obtain rfl : d1 = d2 := by rw [← key d1 r1 h1, h, key d2 r2 h2]
  exact ⟨rfl, (List.cons.inj (List.append_cancel_left h)).2⟩

theorem render_chars :
    (∀ i, (Var.r i).render.toList = ['_', '_', 'r'] ++ digits i) ∧
    (∀ k, (Var.sr k).render.toList = ['_', '_', 's', 'r'] ++ digits k) ∧
    (∀ b, (Var.j b).render.toList = ['_', '_', 'j'] ++ digits b) ∧
    (∀ b e i, (Var.ew b e i).render.toList = ['_', '_', 'e', 'w'] ++ digits b ++ '_' :: digits e ++ '_' :: digits i) ∧
    Var.rs.render.toList = ['_', '_', 'r', 's'] ∧ Var.h.render.toList = ['_', '_', 'h'] ∧
    Var.v.render.toList = ['_', '_', 'v'] ∧ Var.inspect.render.toList = "__inspect".toList ∧
    Var.tb.render.toList = ['_', '_', 't', 'b'] ∧ Var.spawnTokio.render.toList = "__spawn_tokio".toList := by
  refine ⟨?_, ?_, ?_, ?_, by decide +kernel, by decide +kernel, by decide +kernel, rfl, by decide +kernel, rfl⟩
  · intro i; simp [Var.render, fmtName, Tables.fmtResult, String.toList_append, Nat.toList_repr, digits]
  · intro k; simp [Var.render, fmtName, Tables.fmtStepResults, String.toList_append, Nat.toList_repr, digits]
  · intro b; simp [Var.render, fmtName, Tables.fmtThreadBuilder, String.toList_append, Nat.toList_repr, digits]
  · intro b e i; simp [Var.render, fmtName, Tables.fmtExprWrapper, String.toList_append, Nat.toList_repr, digits]

/-- every internal name starts with `__`, so it cannot collide with a user name that does not -/
theorem internal_starts_with_underscores (x : Var) (hx : x.isInternal = true) :
    ∃ rest, x.render.toList = '_' :: '_' :: rest := by
  obtain ⟨h1, h2, h3, h4, h5, h6, h7, h8, h9, h10⟩ := render_chars
  cases x with
  | user s => cases hx
  | _ => simp only [h1, h2, h3, h4, h5, h6, h7, h8, h9, h10]; exact ⟨_, rfl⟩

theorem render_ne_of_no_underscores {w : String} (h0 : ¬ ∃ rest, w.toList = '_' :: '_' :: rest) (v : Var)
    (hv : v.isInternal = true) : v.render ≠ w := fun heq =>
  h0 ((internal_starts_with_underscores v hv).imp fun _ hr => heq ▸ hr)

def letters (l : List Char) : List Char := l.filter (!·.isDigit)

theorem letters_digits (n : Nat) : letters (digits n) = [] :=
  List.filter_eq_nil_iff.2 fun c hc => by rw [digits_digit n c hc]; decide

/-- the letters of the internal names, in the order of the constructors of `Var` (nothing for `user`): pairwise distinct -/
def stems : List (List Char) :=
  [['_', '_', 'r'], [], ['_', '_', 's', 'r'], ['_', '_', 'j'], ['_', '_', 'e', 'w', '_', '_'], ['_', '_', 'r', 's'],
    ['_', '_', 'h'], ['_', '_', 'v'], "__inspect".toList, ['_', '_', 't', 'b'], "__spawn_tokio".toList]

theorem letters_render (x : Var) (hx : x.isInternal = true) : stems[x.ctorIdx]? = some (letters x.render.toList) := by
  obtain ⟨h1, h2, h3, h4, h5, h6, h7, h8, h9, h10⟩ := render_chars
  have hf (n : Nat) : (digits n).filter (!·.isDigit) = [] := letters_digits n
  cases x with
  | user s => cases hx
  | _ =>
    simp only [h1, h2, h3, h4, h5, h6, h7, h8, h9, h10, letters, List.filter_append, List.filter_cons, hf, Var.ctorIdx]
    decide +kernel

/-- **Rendering is injective on internal names**, for all indices: the letters give the constructor, the digit strings
    between them the indices. -/
theorem name_render_injective (x y : Var) (hx : x.isInternal = true) (hy : y.isInternal = true)
    (h : x.render = y.render) : x = y := by
  have hi : x.ctorIdx = y.ctorIdx := by
    have hs := letters_render x hx
    rw [h, ← letters_render y hy] at hs
    exact (List.getElem?_inj (List.getElem?_eq_some_iff.1 (letters_render x hx)).1 (by decide +kernel : stems.Nodup)).1 hs
  obtain ⟨h1, h2, h3, h4, -⟩ := render_chars
  have hl := congrArg String.toList h
  cases x <;> cases y <;> cases hi
  case r.r | sr.sr | j.j => simp only [h1, h2, h3] at hl; rw [digits_inj (List.append_cancel_left hl)]
  case ew.ew b e i b' e' i' =>
    rw [h4, h4] at hl
    simp only [List.append_assoc] at hl
    obtain ⟨hb, hrest⟩ := split_at_underscore _ _ _ _ (digits_digit b) (digits_digit b') (List.append_cancel_left hl)
    obtain ⟨he, hi⟩ := split_at_underscore _ _ _ _ (digits_digit e) (digits_digit e') hrest
    rw [digits_inj hb, digits_inj he, digits_inj hi]
  all_goals first | rfl | cases hx

/-- the clash that once existed: (branch 1, action 11, operand 0) vs (branch 11, action 1, operand 0) -/
example : (Var.ew 1 11 0).render ≠ (Var.ew 11 1 0).render := by decide

/-- Closedness / "macros nest freely": the generated code never gets stuck on an unbound internal name and needs
    nothing from its environment — its meaning is the reference semantics, in which an inner expansion is just
    part of the opaque user world. -/
theorem generated_closed (σ : World) (parent : Option String) (p : Input) (kind : Kind) (code : Code)
    (hs : Supported p kind) (hgen : gen p kind = .ok code) :
    evalCode σ parent code = specRun σ parent p kind := sync_refines σ parent p kind code hs hgen

end JoinModel.Props.C17
