/-
  C11 — block operands are evaluated once, before their step's expressions.
-/
import JoinModel.Props.Common
import JoinModel.Lemmas.OrderFacts
import JoinModel.SpecTables
import JoinModel.AsyncSpec
import JoinModel.Lemmas.CapsOrder
import JoinModel.Print
namespace JoinModel.Props.C11
open JoinModel JoinModel.Props

/-- The operators whose `{…}` operands are evaluated ahead of the step are exactly the documented ones:
    every operator that takes expression operands, member access excluded, the initial value included
    (table T9, regenerated from process_expr.rs / err_expr.rs / initial_expr.rs on every run). -/
theorem hoistable_set : ∀ c : Comb, (isReplaceable c && hasInner c) = SpecTables.hoisting.contains c := by
  intro c; cases c <;> decide +kernel

/-- Which operands of a member are hoisted: exactly its block operands, when the operator hoists — for both
    operands of fold / try_fold as well. -/
theorem hoisted_operands (b e : Nat) (m : Member) (h : (isReplaceable m.ctor && hasInner m.ctor) = true) :
    (hoist b e m).1.map (fun d => d.i) =
      (m.ops.zipIdx.filter fun oi => decide (oi.1.kind = .block)).map Prod.snd := by
  rw [hoist_defs, blockOps, if_pos h, List.map_map]
  rfl

/-- In a step whose captures all return, the capture events are exactly: for every active branch in branch
    order, for every hoisted operand in (action position, operand index) order, one event — each exactly once. -/
theorem captures_in_branch_then_position_order (sc : SpecCfg) (k : Nat) (vis : List (String × Value))
    (capss : List (List Value)) (h : (specCapsAll sc k vis (sc.active k)).res = .ok capss) :
    (specCapsAll sc k vis (sc.active k)).trace =
      (sc.active k).flatMap fun b => (capKeys (sc.acts b k)).map fun ei => .ev (.cap b k ei.1 ei.2 vis) :=
  specCapsAll_trace_ok sc k vis _ capss h

/-- All captures of step k come after every event of step k-1 and before every chain event (or fork) of step k:
    the trace is sorted by (step, captures before chains). -/
theorem captures_before_chains (σ : World) (parent : Option String) (p : Input) (kind : Kind) :
    (keysOf (loopOf σ parent p kind).trace).Pairwise (· ≤ ·) :=
  specLoop_sorted _ _ _ _

/-- Captures run on the calling thread, never inside a branch thread: a fork body consists of chain events only. -/
theorem captures_on_caller (b k : Nat) (o : ChainOut) : ∀ e ∈ chainEvents b k o, ∀ b' k' e' i' vis, e ≠ .cap b' k' e' i' vis := by
  intro e he b' k' e' i' vis heq
  have := (chainEvents_step b k o e he).2
  rw [heq] at this
  cases this

/-- The captured value is used as the operand: the chain receives the list of its captured values, in the same
    order, and the emitted chain refers to them by the names the definitions bind (`hoist`). -/
theorem operand_replaced_by_name (b e : Nat) (m : Member) (h : (isReplaceable m.ctor && hasInner m.ctor) = true) :
    (hoist b e m).2 = m.ops.zipIdx.map fun oi => if oi.1.kind = .block then [(Var.ew b e oi.2).tok] else oi.1.toks := by
  simp [hoist, h]

/-! ### the async macros: every schedule of gate openings -/

/-- **Block captures before their step's chains — async, every schedule.**  Give every event the key `2·step` (block
    capture) or `2·step + 1` (anything inside a chain).  Whatever gates are open at whatever polls, along everything the
    `async move` block emits these keys never decrease: the block operands of step `k` are all evaluated after the last
    event of step `k − 1` and before the first event of any chain of step `k` — also when chains fail or panic. -/
theorem async_captures_before_chains_every_schedule (c : SpecCfg) (pend : Pend) (rem k : Nat) (vals : List (Option Value))
    (gs : List Gates) :
    (((planLoop c pend rem k vals).1 ++ ((planLoop c pend rem k vals).2.run gs).1).map keyLevel).Pairwise (· ≤ ·) ∧
    ∀ e ∈ (planLoop c pend rem k vals).1 ++ ((planLoop c pend rem k vals).2.run gs).1, e.step.isSome = true := by
  obtain ⟨_, ⟨m, hr⟩, hall⟩ := planLoop_run_rising c pend rem k vals gs
  exact ⟨hr.2.1, hall⟩

/-- **The hoisted definitions of every generated step are written — hence evaluated — in branch order, and within a
    branch in the order of the actions' positions in the step, then of the operands** (`lex3`; positions and indices are
    compared as numbers: position 10 comes after position 9, not after position 1). -/
theorem generated_defs_in_position_order (p : Input) (kind : Kind) (c : Ctx) (hs : SupportedBase p)
    (hc : mkCtx p kind = .ok c) (k : Nat) (s : StepCode) (h : genStep c k = .ok s) :
    (s.defs.map fun d => (d.b, d.e, d.i)).Pairwise lex3 := genStep_defs_sorted hs hc k s h

/-- the printer writes the definitions of a step in the order of `defs`, after the thread builders and in front of the step's
    join expression `let __sr{k} = …` -/
theorem defs_printed_in_order (s : StepCode) :
    ((s.tbs.flatMap fun (b, arg) => [kw "let", (Var.j b).tok, pu '=', Var.tb.tok, paren [usizeLit arg], pu ';']) ++
      s.defs.flatMap printCapDef ++ [kw "let", (Var.sr s.k).tok, pu '=']) <+: printStep s := by
  unfold printStep
  simp only [List.append_assoc]
  refine (List.prefix_append_right_inj _).mpr ((List.prefix_append_right_inj _).mpr ?_)
  exact List.prefix_append _ _

/-- Non-vacuity of the order theorem: a step of one branch with block operands at positions 1, 2 and 10 (the regression shape
    of seeded change C11-l), next to a second branch: the keys come out as (0,1,0), (0,2,0), (0,10,0), (1,0,0). -/
example :
    let blk : Operand := ⟨.block, [brace [.ident "x"]]⟩
    let pl : Operand := ⟨.expr, [.ident "f"]⟩
    let ini : Member := ⟨.initial, false, .none, [pl]⟩
    let mb : Member := ⟨.map, false, .none, [blk]⟩
    let mp : Member := ⟨.map, false, .none, [pl]⟩
    let p : Input := { branches := [⟨none, [ini, mb, mb, mp, mp, mp, mp, mp, mp, mp, mb]⟩, ⟨none, [⟨.initial, false, .none, [blk]⟩]⟩] }
    (match mkCtx p ⟨false, false, false⟩ with
      | .ok c => (match genStep c 0 with | .ok s => s.defs.map (fun d => (d.b, d.e, d.i)) | .error _ => [])
      | .error _ => []) = [(0, 1, 0), (0, 2, 0), (0, 10, 0), (1, 0, 0)] := by
  decide +kernel

/-- Non-vacuity: `fold` with two block operands hoists both (positions 0 and 1); with one block and one plain operand only
    the block; `map` with a block operand hoists it, `..` (dot) hoists nothing. -/
example : (hoist 1 2 ⟨.fold, true, .none, [⟨.block, [pu '#']⟩, ⟨.block, [pu '#']⟩]⟩).1.map (fun d => d.i) = [0, 1] := by decide
example : (hoist 1 2 ⟨.fold, true, .none, [⟨.expr, [pu '#']⟩, ⟨.block, [pu '#']⟩]⟩).1.map (fun d => d.i) = [1] := by decide
example : (hoist 0 1 ⟨.map, true, .none, [⟨.block, [pu '#']⟩]⟩).1.length = 1 := by decide
example : (hoist 0 1 ⟨.dot, true, .none, [⟨.block, [pu '#']⟩]⟩).1.length = 0 := by decide

/-- …and a run in which captures do occur: two branches whose steps 1 and 2 have a block operand; the keys of the emitted
    events (capture of step k = 2k, chain of step k = 2k+1) are 1 (×4: two chains, start and end) | 2,2,3,3,3,3 | 4,4,5,5,5,5. -/
def capWorld : World where
  capture b k _ _ _ := .ok (.atom (100 + b + 10 * k))
  chain b k _ _ _ := ⟨[], .ok (.succ (.atom (b + 10 * k)))⟩
  handlerDef := .ok ()
  handlerCall _ := .ok (.atom 0)
  joiner _ vs := .ok (mkTuple vs)

def capProg : Input :=
  let ini : Member := ⟨.initial, false, .none, [⟨.expr, []⟩]⟩
  let stp : Member := ⟨.map, true, .none, [⟨.block, []⟩]⟩
  { branches := [⟨none, [ini, stp, stp]⟩, ⟨none, [ini, stp, stp]⟩] }

example : keysOf (loopOf capWorld none capProg ⟨false, false, false⟩).trace = [1, 1, 1, 1, 2, 2, 3, 3, 3, 3, 4, 4, 5, 5, 5, 5] := by decide +kernel

end JoinModel.Props.C11
