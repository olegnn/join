/-
  C12 — `let` names expose each branch's latest step result to later captures.
-/
import JoinModel.Props.Common
namespace JoinModel.Props.C12
open JoinModel JoinModel.Props

/-- Every block capture of step k sees exactly `visibleSpec names vals`, where `vals` are the branches' values
    at the start of step k. -/
theorem capture_sees_names (sc : SpecCfg) (k : Nat) (vals : List (Option Value)) :
    ∀ e ∈ (specCapsAll sc k (visibleSpec sc.names vals) (sc.active k)).trace,
      ∃ b e' i, e = .ev (.cap b k e' i (visibleSpec sc.names vals)) := by
  intro e he
  obtain ⟨b, _, ei, _, rfl⟩ := specCapsAll_trace sc k _ _ e he
  exact ⟨b, ei.1, ei.2, rfl⟩

/-- What the names are bound to: the name of branch i maps to branch i's most recent step result — in try macros
    still wrapped — also after the branch has finished (a finished branch keeps its value, C04). -/
theorem name_bound_to_latest (names : List (Option String)) (vals : List (Option Value)) (i : Nat) (s : String)
    (v : Value) (hn : names[i]? = some (some s)) (hv : vals[i]? = some (some v)) :
    (s, v) ∈ visibleSpec names vals :=
  List.mem_filterMap.mpr ⟨(some s, some v), List.mem_of_getElem? (List.getElem?_zip_eq_some.mpr ⟨hn, hv⟩), rfl⟩

/-- In step 0 no name of a branch is visible yet. -/
theorem nothing_visible_in_step_0 (names : List (Option String)) (n : Nat) :
    visibleSpec names (List.replicate n none) = [] := by
  simp only [visibleSpec, List.filterMap_eq_nil_iff]
  intro nv hnv
  obtain ⟨nm, v⟩ := nv
  have := (List.of_mem_zip hnv).2
  simp only [List.mem_replicate] at this
  rw [this.2]
  cases nm <;> rfl

/-- only names are visible: an unnamed branch contributes nothing -/
theorem unnamed_invisible (names : List (Option String)) (vals : List (Option Value)) :
    ∀ sv ∈ visibleSpec names vals, some sv.1 ∈ names := by
  intro sv hsv
  obtain ⟨⟨nm, v⟩, hnv, h⟩ := List.mem_filterMap.mp hsv
  cases nm <;> cases v <;> cases h
  exact (List.of_mem_zip hnv).1

/-- In the generated code the names are visible to user code exactly as in the reference semantics (the invariant
    of the refinement proof: `visible names env = visibleSpec names vals`). -/
theorem generated_visibility {c : Ctx} {names : List (Option String)} (ok : CtxOK c names) {k : Nat} {env : Env}
    {vals : List (Option Value)} (hinv : Inv c names k env vals) : visible names env = visibleSpec names vals :=
  visible_eq ok hinv

/-! ### `let` does not change the result -/

def eraseVis : MEv → MEv
  | .ev (.cap b k e i _) => .ev (.cap b k e i [])
  | x => x

def SameUpToNames {α : Type} (m m' : M α) : Prop := m.res = m'.res ∧ m.trace.map eraseVis = m'.trace.map eraseVis

theorem SameUpToNames.refl {α : Type} (m : M α) : SameUpToNames m m := ⟨rfl, rfl⟩

theorem SameUpToNames.andThen {α β : Type} {m m' : M α} {f f' : α → M β} (h : SameUpToNames m m')
    (hf : ∀ a, SameUpToNames (f a) (f' a)) : SameUpToNames (m.andThen f) (m'.andThen f') := by
  obtain ⟨hr, ht⟩ := h
  cases m with
  | mk t r =>
    cases m' with
    | mk t' r' =>
      simp only at hr ht
      subst hr
      cases r with
      | ok a =>
        obtain ⟨h1, h2⟩ := hf a
        exact ⟨by simpa [M.andThen] using h1, by simp [M.andThen, ht, h2]⟩
      | panic s => exact ⟨rfl, by simpa [M.andThen] using ht⟩
      | stuck => exact ⟨rfl, by simpa [M.andThen] using ht⟩

/-- user code that does not read the `let` names -/
def NameBlind (σ : World) : Prop :=
  (∀ b k e i vis, σ.capture b k e i vis = σ.capture b k e i []) ∧
  (∀ b k prev caps vis, σ.chain b k prev caps vis = σ.chain b k prev caps [])

theorem caps_branch_blind (c c' : SpecCfg) (hσ : c'.σ = c.σ) (hb : NameBlind c.σ) (k b : Nat) (vis vis' : List (String × Value))
    (keys : List (Nat × Nat)) : SameUpToNames (specCapsBranch c k b vis keys) (specCapsBranch c' k b vis' keys) := by
  induction keys with
  | nil => exact SameUpToNames.refl _
  | cons ei rest ih =>
    obtain ⟨e, i⟩ := ei
    simp only [specCapsBranch]
    apply SameUpToNames.andThen
    · exact ⟨rfl, by simp [M.tell, eraseVis]⟩
    · intro _
      apply SameUpToNames.andThen
      · rw [hσ, hb.1 b k e i vis, hb.1 b k e i vis']
        exact SameUpToNames.refl _
      · intro v
        exact SameUpToNames.andThen ih (fun _ => SameUpToNames.refl _)

theorem caps_all_blind (c c' : SpecCfg) (hσ : c'.σ = c.σ) (hch : c'.chains = c.chains) (hb : NameBlind c.σ) (k : Nat)
    (vis vis' : List (String × Value)) (bs : List Nat) :
    SameUpToNames (specCapsAll c k vis bs) (specCapsAll c' k vis' bs) := by
  induction bs with
  | nil => exact SameUpToNames.refl _
  | cons b bs ih =>
    simp only [specCapsAll]
    have hacts : c'.acts b k = c.acts b k := by simp [SpecCfg.acts, hch]
    rw [hacts]
    exact SameUpToNames.andThen (caps_branch_blind c c' hσ hb k b vis vis' _)
      (fun _ => SameUpToNames.andThen ih (fun _ => SameUpToNames.refl _))

theorem chains_blind (c c' : SpecCfg) (hσ : c'.σ = c.σ) (hch : c'.chains = c.chains) (hk : c'.kind = c.kind)
    (hp : c'.parent = c.parent) (hb : NameBlind c.σ) (k : Nat) (vals : List (Option Value))
    (vis vis' : List (String × Value)) (act : List Nat) (caps : List (List Value)) :
    specChains c k vals vis act caps = specChains c' k vals vis' act caps := by
  have hprev : ∀ b, specPrev c' vals b k = specPrev c vals b k := by
    intro b; unfold specPrev SpecCfg.acts; rw [hch]
  have hseq : ∀ bcs, specChainsSeq c k vals vis bcs = specChainsSeq c' k vals vis' bcs := by
    intro bcs
    induction bcs with
    | nil => rfl
    | cons bc bcs ih =>
      obtain ⟨b, cs⟩ := bc
      simp only [specChainsSeq, hσ, hprev, ih]
      rw [hb.2 b k _ cs vis, hb.2 b k _ cs vis']
  unfold specChains
  rw [hk, hseq]
  simp only [specChainsFork, hσ, hprev, hp]
  have : ((act.zip caps).map fun (x : Nat × List Value) => (x.1, c.σ.chain x.1 k (specPrev c vals x.1 k) x.2 vis)) =
      ((act.zip caps).map fun (x : Nat × List Value) => (x.1, c.σ.chain x.1 k (specPrev c vals x.1 k) x.2 vis')) := by
    apply List.map_congr_left
    intro x _
    rw [hb.2 x.1 k _ x.2 vis, hb.2 x.1 k _ x.2 vis']
  rw [this]

/-- **`let` does not change the result.**  Two invocations that differ only in which branches carry a `let` name, run
    against user code that does not read those names: same result, same events (up to the record of which names each
    capture saw), from every step on. -/
theorem loop_names_irrelevant (c c' : SpecCfg) (hσ : c'.σ = c.σ) (hch : c'.chains = c.chains) (hk : c'.kind = c.kind)
    (hp : c'.parent = c.parent) (hb : NameBlind c.σ) (rem k : Nat) (vals : List (Option Value)) :
    SameUpToNames (specLoop c rem k vals) (specLoop c' rem k vals) := by
  have hact : ∀ k, c'.active k = c.active k := fun k => by unfold SpecCfg.active SpecCfg.n SpecCfg.depth; rw [hch]
  refine specLoop_congr (R := SameUpToNames) (S := SameUpToNames) (fun _ _ _ _ => SameUpToNames.andThen)
    SameUpToNames.refl (by rw [hk]) hact (fun k vals => ?_) rem k vals
  simp only [specStep, hact]
  refine SameUpToNames.andThen (caps_all_blind c c' hσ hch hb k _ _ _) fun caps => ?_
  rw [chains_blind c c' hσ hch hk hp hb k vals _ (visibleSpec c'.names vals)]
  exact SameUpToNames.refl _

/-- the same for a whole invocation: `p'` is `p` with other (or no) `let` names -/
theorem let_result_invariant (σ : World) (parent : Option String) (p p' : Input) (kind : Kind) (hb : NameBlind σ)
    (hm : p'.branches.map (·.members) = p.branches.map (·.members)) (hh : p'.handler = p.handler) :
    (specRun σ parent p kind).res = (specRun σ parent p' kind).res := by
  have hch : p'.branches.map (fun b => splitSteps b.members) = p.branches.map (fun b => splitSteps b.members) := by
    have := congrArg (List.map splitSteps) hm
    simpa [List.map_map, Function.comp_def] using this
  have hl := loop_names_irrelevant (cfgFor σ parent p kind) (cfgFor σ parent p' kind) rfl (by simp [cfgFor, hch]) rfl rfl hb
    ((cfgFor σ parent p kind).maxDepth - 1) 0 (List.replicate (cfgFor σ parent p kind).n none)
  have hmd : (cfgFor σ parent p' kind).maxDepth = (cfgFor σ parent p kind).maxDepth := by simp [cfgFor, SpecCfg.maxDepth, hch]
  have hn : (cfgFor σ parent p' kind).n = (cfgFor σ parent p kind).n := by simp [cfgFor, SpecCfg.n, hch]
  have hhd : handlerDefOf σ p' = handlerDefOf σ p := by simp [handlerDefOf, hh]
  rw [specRun_eq, specRun_eq, hhd, hh]
  refine (SameUpToNames.andThen (.refl _) fun _ => SameUpToNames.andThen ?_ fun f => .refl _).1
  rw [loopOf, loopOf, hmd, hn]
  exact hl

/-- **…and for the code the macro expands to**: two invocations whose branches and handler are the same token for token and
    which differ only in their `let` names (other names, fewer, none), against user code that does not read the names,
    expand to codes with the same outcome — value, failure or panic. -/
theorem generated_let_invariant (σ : World) (parent : Option String) (p p' : Input) (kind : Kind) (code code' : Code)
    (hb : NameBlind σ) (hm : p'.branches.map (·.members) = p.branches.map (·.members)) (hh : p'.handler = p.handler)
    (hs : Supported p kind) (hs' : Supported p' kind) (hgen : gen p kind = .ok code) (hgen' : gen p' kind = .ok code') :
    (evalCode σ parent code).res = (evalCode σ parent code').res := by
  rw [sync_refines σ parent p kind code hs hgen, sync_refines σ parent p' kind code' hs' hgen']
  exact let_result_invariant σ parent p p' kind hb hm hh

/-- Non-vacuity of `NameBlind`: a world whose user code ignores the names satisfies it; one whose chains look at the
    names in scope does not — the hypothesis of `let_result_invariant` separates the two. -/
def blindWorld : World where
  capture b k e i _ := .ok (.atom (b + k + e + i))
  chain b k _ _ _ := ⟨[], .ok (.succ (.atom (b + 10 * k)))⟩
  handlerDef := .ok ()
  handlerCall _ := .ok (.atom 0)
  joiner _ vs := .ok (mkTuple vs)

def readingWorld : World := { blindWorld with chain := fun _ _ _ _ vis => ⟨[], .ok (.succ (.atom vis.length))⟩ }

example : NameBlind blindWorld := ⟨fun _ _ _ _ _ => rfl, fun _ _ _ _ _ => rfl⟩

example : ¬ NameBlind readingWorld := by
  intro h
  have := h.2 0 0 none [] [("x", .atom 0)]
  simp [readingWorld] at this

/-- …and of `name_bound_to_latest`: branch 1 is named `x` and has produced 21. -/
example : ("x", Value.atom 21) ∈ visibleSpec [none, some "x"] [some (.atom 0), some (.atom 21)] :=
  name_bound_to_latest _ _ 1 "x" (.atom 21) rfl rfl

end JoinModel.Props.C12
