/-
  C10 — every user expression runs exactly once; values move, never copy.
  In the reference loop every reached atom (block capture, chain of an active branch, handler definition, handler
  call) is evaluated exactly once per step it belongs to, and the generated code has exactly these events
  (`sync_refines`).  "Nothing dropped from or duplicated in the expansion" at token level: `gen_conserves_tokens`
  (structured code) and `expansion_conserves_tokens` (emitted token stream), with K1 unique operand markers on the real
  output.  Moves and drops: K2 event multisets; rustc's move semantics are outside Lean (partial).
-/
import JoinModel.Props.Common
import JoinModel.Lemmas.ParseInit
import JoinModel.Lemmas.PrintCount
import JoinModel.Props.C17
namespace JoinModel.Props.C10
open JoinModel JoinModel.Props

/-- the block captures of a step are pairwise distinct atoms, each evaluated once -/
theorem captures_once (sc : SpecCfg) (k : Nat) (vis : List (String × Value)) (capss : List (List Value))
    (h : (specCapsAll sc k vis (sc.active k)).res = .ok capss) :
    (specCapsAll sc k vis (sc.active k)).trace.Nodup := by
  rw [specCapsAll_trace_ok sc k vis _ capss h, List.Nodup, List.pairwise_flatMap]
  refine ⟨fun b _ => List.pairwise_map.mpr ?_, List.Pairwise.imp (fun hne x hx y hy heq => ?_) (active_nodup sc k)⟩
  · -- positions (e, i) of one branch are distinct
    refine List.Pairwise.imp (fun hne heq => hne ?_) (capDefsOf_keys_nodup 0 (sc.acts b k) 0)
    simp only [MEv.ev.injEq, Ev.cap.injEq, true_and, and_true] at heq
    exact Prod.ext_iff.mpr heq
  · obtain ⟨ei, _, rfl⟩ := List.mem_map.mp hx
    obtain ⟨ei', _, rfl⟩ := List.mem_map.mp hy
    simp only [MEv.ev.injEq, Ev.cap.injEq] at heq
    exact hne heq.1

/-- in a step that returns, every active branch's chain ran exactly once: one `(branch, step, value)` entry each -/
theorem chains_once (sc : SpecCfg) (k : Nat) (vals : List (Option Value)) (vis : List (String × Value))
    (caps : List (List Value)) (hl : (sc.active k).length = caps.length) (news : List Value)
    (h : (specChains sc k vals vis (sc.active k) caps).res = .ok news) :
    (chainEnds (specChains sc k vals vis (sc.active k) caps).trace).map (fun e => e.1) = sc.active k ∧
    (sc.active k).Nodup := by
  refine ⟨?_, active_nodup sc k⟩
  rw [specChains_ends sc k vals vis _ caps hl news h]
  have hnl := specChains_length _ _ _ _ _ _ hl _ h
  simp only [List.map_map]
  have : ((fun (e : Nat × Nat × Value) => e.1) ∘ fun (bv : Nat × Value) => (bv.1, k, bv.2)) = Prod.fst := by
    funext bv; rfl
  rw [this, List.map_fst_zip]
  omega

/-- the handler is defined once (before the steps) and called at most once (after them): Props/C13 `call_trace` -/
theorem handler_def_once (σ : World) (p : Input) :
    (handlerDefOf σ p).trace = (match p.handler with | some _ => [.ev .handlerDef] | none => []) := by
  unfold handlerDefOf
  cases p.handler <;> simp [M.ret, M.tell, M.andThen, M.lift]

/-- the inspect helper calls its callback once with a reference and returns the value: the body of the emitted
    `fn __inspect<I>(__h: impl Fn(&I) -> (), __v: I) -> I` is `{ __h(&__v); __v }` -/
theorem inspect_helper_body :
    Templates.fnInspect.getLast? = some (brace [Var.h.tok, paren [pu '&', Var.v.tok], pu ';', Var.v.tok]) := by
  simp [Templates.fnInspect, brace, paren, pu]

/-! ### nothing dropped, nothing duplicated: one action at token level
    (counting functions and proofs: Lemmas/TokCount.lean) -/

/-- **Every emission template uses each of its operands exactly once** (table theorem over the templates observed from
    the running `ToTokens` implementations): the holes of the template for `n` operands are `0, …, n-1`. -/
theorem templates_linear :
    ∀ row ∈ Tables.emit, ∀ t, row.2.2 = some t → holesOf t = List.range row.2.1 := templates_linear_tbl

/-- **The method call of an operator contains each operand's tokens exactly once**, and nothing else a user could have
    written: `s` is any identifier that is not a template word. -/
theorem emit_conserves_tokens (s : String) (hs : UserIdent s) (c : Comb) (ops : List Toks) (r : Toks)
    (h : emitTokens c ops = .ok r) : cntToks s r = sumList (ops.map (cntToks s)) := emit_conserves s hs c ops r h

/-- hoisting a member's block operands moves their tokens into the definitions and leaves a generated name behind:
    no user token is lost or duplicated -/
theorem hoist_conserves_tokens (s : String) (hs : ∀ b e i, (Var.ew b e i).render ≠ s) (b e : Nat) (m : Member) :
    sumList ((hoist b e m).1.map fun d => cntToks s d.toks) + sumList ((hoist b e m).2.map (cntToks s)) =
      sumList (m.ops.map fun o => cntToks s o.toks) := hoist_conserves s hs b e m

/-! ### nothing dropped, nothing duplicated: the whole program -/

/-- **Every user token of every operand of the program occurs exactly once in the generated steps** — in a hoisted
    definition `let __ew… = {…};` or in a chain expression — for every program the generator accepts, with any wrappers
    (`>>>`/`<<<`, closed explicitly or by the end of the step) and block operands.  `s`: any identifier that is neither a
    word the generator writes itself (`Marker`) nor one of the program's `let` names.  `cntProgram` counts the operands of
    all members (a `>>>` member's placeholder closure and a `<<<` member carry none).  `InitialOnlyFirst` is what the
    parser builds (`accepted_conserves_tokens`). -/
theorem gen_conserves_tokens (s : String) (hm : Marker s) (p : Input) (kind : Kind) (code : Code)
    (h : gen p kind = .ok code) (hinit : InitialOnlyFirst p)
    (hnames : ∀ b ∈ p.branches, ∀ pt, b.pat = some pt → pt.ident ≠ s) :
    stepsCount s code.steps = cntProgram s p ∧ code.handlerDef = p.handler.map (·.2) := by
  refine ⟨gen_count hm p kind code h hinit hnames, ?_⟩
  obtain ⟨_, _, _, _, _, rfl⟩ := gen_inv h
  rfl

/-- …and from the tokens the caller wrote: whatever the parser accepts (any behaviour of syn) and the generator expands. -/
theorem accepted_conserves_tokens (o : Oracle) (toks : Toks) (s : String) (hm : Marker s) (p : Input) (kind : Kind)
    (code : Code) (hparse : parseMacroInput o toks = .ok p) (h : gen p kind = .ok code)
    (hnames : ∀ b ∈ p.branches, ∀ pt, b.pat = some pt → pt.ident ≠ s) :
    stepsCount s code.steps = cntProgram s p :=
  (gen_conserves_tokens s hm p kind code h (parse_initial_only_first o toks p hparse) hnames).1

/-- Non-vacuity of `Marker`: `user_marker` is no template word, none of the generator's own words, and no internal name
    (those start with `__`, Props/C17). -/
theorem marker_example : Marker "user_marker" :=
  ⟨by decide +kernel, C17.render_ne_of_no_underscores (by simp), by simp, by simp, by simp⟩

/-- …and of the conclusion: `a |> user_marker, { user_marker } ~=> >>> |> user_marker` keeps its three occurrences (one of
    them hoisted, one inside a wrapper closed by the end of its step). -/
example :
    let um : Toks := [.ident "user_marker"]
    let p : Input := { branches := [⟨none, [⟨.initial, false, .none, [⟨.expr, [.ident "a"]⟩]⟩, ⟨.map, false, .none, [⟨.expr, um⟩]⟩]⟩,
      ⟨none, [⟨.initial, false, .none, [⟨.block, [brace um]⟩]⟩, ⟨.andThen, true, .wrap, [⟨.expr, Tables.wrapperPlaceholder⟩]⟩,
              ⟨.map, false, .none, [⟨.expr, um⟩]⟩]⟩] }
    cntProgram "user_marker" p = 3 ∧
      (match gen p ⟨false, false, false⟩ with | .ok code => stepsCount "user_marker" code.steps | .error _ => 0) = 3 := by
  decide +kernel

/-- **…and exactly once in the emitted token stream.**  `printCode` is the printer that K1 compares token for token with the real
    expansion: the occurrences of a user identifier `s` in the whole expansion are its occurrences in the operands of the
    program plus those in the handler; nothing of the macro's own helper items, names, keywords, patterns or paths is
    counted (`PMarker`: `s` is none of the ≈50 identifiers the templates and the printer write themselves;
    `OtherTokensFree`: the `let` patterns, the joiner and the futures path do not mention `s`). -/
theorem expansion_conserves_tokens (s : String) (hm : PMarker s) (p : Input) (kind : Kind) (code : Code)
    (h : gen p kind = .ok code) (hinit : InitialOnlyFirst p) (ho : OtherTokensFree s p) :
    cntToks s (printCode code) = cntProgram s p + cntToks s ((p.handler.map (·.2)).getD []) :=
  expansion_count hm p kind code h hinit ho

/-- the same from the caller's tokens -/
theorem accepted_expansion_conserves_tokens (o : Oracle) (toks : Toks) (s : String) (hm : PMarker s) (p : Input)
    (kind : Kind) (code : Code) (hparse : parseMacroInput o toks = .ok p) (h : gen p kind = .ok code)
    (ho : OtherTokensFree s p) :
    cntToks s (printCode code) = cntProgram s p + cntToks s ((p.handler.map (·.2)).getD []) :=
  expansion_count hm p kind code h (parse_initial_only_first o toks p hparse) ho

/-- Non-vacuity of `PMarker` -/
theorem pmarker_example : PMarker "user_marker" :=
  { toMarker := marker_example, words := by simp [printerWords], inspectFn := by decide +kernel, tbFn := by decide +kernel }

/-- …and of the conclusion, on printed tokens: the program of the example above under `join!` and under
    `try_join_async_spawn!` with a handler that mentions the marker once. -/
example :
    let um : Toks := [.ident "user_marker"]
    let hd : Toks := [pu '|', .ident "x", pu '|', .ident "user_marker"]
    let bs : List Branch := [⟨none, [⟨.initial, false, .none, [⟨.expr, [.ident "a"]⟩]⟩, ⟨.map, false, .none, [⟨.expr, um⟩]⟩]⟩,
      ⟨none, [⟨.initial, false, .none, [⟨.block, [brace um]⟩]⟩, ⟨.andThen, true, .wrap, [⟨.expr, Tables.wrapperPlaceholder⟩]⟩,
              ⟨.map, false, .none, [⟨.expr, um⟩]⟩]⟩]
    (match gen { handler := some (.map, hd), branches := bs } ⟨true, true, true⟩ with
      | .ok code => cntToks "user_marker" (printCode code) | .error _ => 0) = 4 ∧
    (match gen { branches := bs } ⟨false, false, false⟩ with
      | .ok code => cntToks "user_marker" (printCode code) | .error _ => 0) = 3 := by
  decide +kernel

/-- Non-vacuity of `UserIdent`: an identifier such as `user_marker` never occurs among the templates' own tokens, whereas
    `map` does (the template of `|>`): the hypothesis of `emit_conserves_tokens` holds for the former only. -/
example : UserIdent "user_marker" := by decide +kernel
example : ¬ UserIdent "map" := by decide +kernel

/-- …and a concrete instance of the conclusion: `|> user_marker(user_marker)` keeps both occurrences. -/
example : (match emitTokens .map [[.ident "user_marker", paren [.ident "user_marker"]]] with
    | .ok r => cntToks "user_marker" r
    | .error _ => 0) = 2 := by decide +kernel

end JoinModel.Props.C10
