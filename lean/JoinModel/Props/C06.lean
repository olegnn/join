/-
  C06 — try macros: a failed step aborts everything after it.
  Reference loop + bridge (`sync_refines`).  Every event carries its step (`MEv.step`): block
  captures, chain starts/ends, callbacks inside chains, forks/joins of branch threads.
-/
import JoinModel.Props.Common
import JoinModel.AsyncTry
import JoinModel.AsyncSpec
import JoinModel.Concrete
namespace JoinModel.Props.C06
open JoinModel JoinModel.Props

/-- When the loop of a try macro ends in failure there is a failing step `j` such that nothing that belongs
    to a later step appears in the trace — no capture, chain, callback, fork — and every branch active in
    step `j` ran its chain of that step to the end. -/
theorem no_later_step_after_failure (σ : World) (parent : Option String) (p : Input) (kind : Kind)
    (htry : kind.isTry = true) (v : Value) (h : (loopOf σ parent p kind).res = .ok (.failed v)) :
    ∃ b j, (b, j, v) ∈ chainEnds (loopOf σ parent p kind).trace ∧
      (∀ e ∈ (loopOf σ parent p kind).trace, ∀ s, e.step = some s → s ≤ j) ∧
      (∀ b' ∈ (cfgFor σ parent p kind).active j, ∃ v', (b', j, v') ∈ chainEnds (loopOf σ parent p kind).trace) := by
  have := specLoop_try (cfgFor σ parent p kind) htry _ 0 _ (by simp [SpecCfg.n]) (allSucc_init' _) (.failed v) h
  obtain ⟨_, b, j, _, h3, _, h5, h6⟩ := this
  exact ⟨b, j, h3, h5, h6⟩

/-- A `map` / `and_then` handler is not called after a failure: the failing value is the macro's value and no
    event is added. -/
theorem handler_not_called_on_failure (sc : SpecCfg) (h : Option HKind) (v : Value) :
    specHandle sc h (.failed v) = M.ret v := by
  cases h with
  | none => rfl
  | some k => cases k <;> rfl

/-- The whole run of a failing try macro with a handler: the trace is "handler definition, then the loop";
    in particular it contains no `handlerCall` event. -/
theorem failing_run_trace (σ : World) (parent : Option String) (p : Input) (kind : Kind) (v : Value)
    (hd : σ.handlerDef = .ok ()) (h : (loopOf σ parent p kind).res = .ok (.failed v)) :
    (specRun σ parent p kind).res = .ok v ∧
    (specRun σ parent p kind).trace = (handlerDefOf σ p).trace ++ (loopOf σ parent p kind).trace := by
  have hdr : (handlerDefOf σ p).res = .ok () := by
    unfold handlerDefOf
    cases p.handler <;> simp [hd, UR.toRes]
  rw [specRun_eq, (M.andThen_trace_ok hdr).1, (M.andThen_trace_ok hdr).2, (M.andThen_trace_ok h).1,
    (M.andThen_trace_ok h).2, handler_not_called_on_failure]
  exact ⟨rfl, by simp⟩

/-! ### the async try macros (canonical schedule) -/

def loopOfAT (σ : World) (parent : Option String) (p : Input) (kind : Kind) : M Fin :=
  specLoopAT (cfgFor σ parent p kind) ((cfgFor σ parent p kind).maxDepth - 1) 0
    (List.replicate (cfgFor σ parent p kind).n none)

/-- `try_join_async!` & co.: the generated code is the async-try reference (events and result) -/
theorem async_try_generated (σ : World) (parent : Option String) (p : Input) (kind : Kind) (code : Code)
    (hs : SupportedAT p kind) (hgen : gen p kind = .ok code) :
    evalCode σ parent code = specRunAT σ parent p kind := async_try_refines σ parent p kind code hs hgen

/-- **From the tokens to the aborted run** (sequential and thread-spawning try macros): whatever the parser accepts (any
    behaviour of syn), if the step loop of the parsed program fails with `v`, the expanded code returns exactly `v` and its
    events are the handler definition followed by the loop's events — nothing of a step after the failing one
    (`no_later_step_after_failure`), no handler call. -/
theorem accepted_failing_run (o : Oracle) (toks : Toks) (σ : World) (parent : Option String) (p : Input) (kind : Kind)
    (code : Code) (hparse : parseMacroInput o toks = .ok p) (hd : PlainInvocation p kind) (hgen : gen p kind = .ok code)
    (v : Value) (hdef : σ.handlerDef = .ok ()) (h : (loopOf σ parent p kind).res = .ok (.failed v)) :
    (evalCode σ parent code).res = .ok v ∧
    (evalCode σ parent code).trace = (handlerDefOf σ p).trace ++ (loopOf σ parent p kind).trace := by
  rw [accepted_eq_reference o toks σ parent p kind code hparse hd hgen]
  exact failing_run_trace σ parent p kind v hdef h

/-- …and from the tokens the caller wrote: whatever the parser accepts (any behaviour of syn) under an async try macro
    with default options expands to code that is the async-try reference loop of what was parsed. -/
theorem accepted_async_try (o : Oracle) (toks : Toks) (σ : World) (parent : Option String) (p : Input) (kind : Kind)
    (code : Code) (hparse : parseMacroInput o toks = .ok p) (hj : p.joiner = none) (hl : p.lazy = none)
    (hnames : (p.branches.filterMap fun b => b.pat.map (·.ident)).Nodup) (ha : kind.isAsync = true)
    (ht : kind.isTry = true) (htr : p.transpose ≠ some true) (hgen : gen p kind = .ok code) :
    evalCode σ parent code = specRunAT σ parent p kind :=
  async_try_refines σ parent p kind code
    { noJoiner := hj, noLazy := hl, namesNodup := hnames, firstInitial := parse_first_initial o toks p hparse,
      isAsync := ha, isTry := ht, transposeDefault := htr } hgen

/-- **C05/C06 for the async try macros**: when the loop fails with `v`, `v` is not a success, it is — unchanged — what a
    chain returned, and the end of that chain is the *last* event of the loop: nothing of a later step is evaluated and
    no chain behind it in its own step runs (`try_join!` returns at once); by `handler_not_called_on_failure` no handler
    is called either. -/
theorem async_try_stops_at_failure (σ : World) (parent : Option String) (p : Input) (kind : Kind) (v : Value)
    (h : (loopOfAT σ parent p kind).res = .ok (.failed v)) :
    v.isSucc = false ∧ ∃ pre b j, (loopOfAT σ parent p kind).trace = pre ++ [.ev (.chainEnd b j v)] := by
  obtain ⟨h1, pre, b, j, h2, _⟩ := specLoopAT_failed _ _ _ _ v h
  exact ⟨h1, pre, b, j, h2⟩

/-- on success the loop returns one payload per branch -/
theorem async_try_success_arity (σ : World) (parent : Option String) (p : Input) (kind : Kind) (code : Code)
    (hs : SupportedAT p kind) (ps : List Value) (h : (loopOfAT σ parent p kind).res = .ok (.vals ps)) :
    ps.length = p.branches.length := by
  have := specLoopAT_post (cfgFor σ parent p kind) hs.isTry _ _ _ (.vals ps) (allSucc_init' _) (by simp) h
  simpa [Fin.OK, cfgFor, SpecCfg.n] using this

/-! ### the async try macros under every schedule

  `planLoop` (AsyncSpec.lean) is the `async move` block as a poll-level plan; `kont`/`sm` is whatever follows the step
  loop (`planRun` puts the handler there).  The statement holds from any step `k` and any state `vals` the run may have
  reached, for every schedule `gs` of gate openings. -/

/-- **A failed step aborts everything after it — async, every schedule.**  When some active chain of step `k` ends with a
    stopping output (a failure in a try macro, a panic in any async macro), every event the future emits from here on
    belongs to step `k` (no capture, chain or callback of a later step, no handler call), and the future is still in step
    `k` or finished with the stop result of one of step `k`'s stopping chains — the failure returned unchanged, or the
    panic. -/
theorem failed_step_aborts_every_schedule (c : SpecCfg) (pend : Pend) (rem k : Nat) (vals : List (Option Value))
    (capss : List (List Value))
    (hc : (specCapsAll c k (visibleSpec c.names vals) (c.active k)).res = .ok capss)
    (bc : Nat × List Value) (hbc : bc ∈ (c.active k).zip capss)
    (hstop : stopOf c (taskOf c pend k vals (visibleSpec c.names vals) bc).out = true)
    {ρ' : Type} (kont : Res Fin → List MEv × Plan MEv (UR Value) ρ') (sm : Res Fin → ρ') (gs : List Gates) :
    (∀ e ∈ (((planLoop c pend rem k vals).2.bind kont sm).2.run gs).1, e.step = some k) ∧
    ((((planLoop c pend rem k vals).2.bind kont sm).2.run gs).2.isDone = false ∨
     ∃ o, (((planLoop c pend rem k vals).2.bind kont sm).2.run gs).2 = .done (sm (onStopOf o)) ∧ stopOf c o = true ∧
       o ∈ ((c.active k).zip capss).map (fun bc => (taskOf c pend k vals (visibleSpec c.names vals) bc).out)) :=
  planLoop_stopper c pend rem k vals capss hc bc hbc hstop kont sm gs

/-- … and once the future is polled with every gate open it *is* finished, whatever the schedule before: with the failure
    of one of step `k`'s failing chains, returned unchanged (`onStopOf`), or with the panic of one of them. -/
theorem failed_step_result_every_schedule (c : SpecCfg) (pend : Pend) (rem k : Nat) (vals : List (Option Value))
    (capss : List (List Value))
    (hc : (specCapsAll c k (visibleSpec c.names vals) (c.active k)).res = .ok capss)
    (bc : Nat × List Value) (hbc : bc ∈ (c.active k).zip capss)
    (hstop : stopOf c (taskOf c pend k vals (visibleSpec c.names vals) bc).out = true)
    {ρ' : Type} (kont : Res Fin → List MEv × Plan MEv (UR Value) ρ') (sm : Res Fin → ρ') (gs : List Gates) :
    ∃ o, (((planLoop c pend rem k vals).2.bind kont sm).2.run (gs ++ [allOpen])).2 = .done (sm (onStopOf o)) ∧
      stopOf c o = true ∧
      o ∈ ((c.active k).zip capss).map (fun bc => (taskOf c pend k vals (visibleSpec c.names vals) bc).out) := by
  obtain ⟨_, h⟩ := failed_step_aborts_every_schedule c pend rem k vals capss hc bc hbc hstop kont sm (gs ++ [allOpen])
  rcases h with h | h
  · rw [Plan.run_allOpen_done] at h; cases h
  · exact h

/-- the hypotheses are satisfiable: `try_join_async! { a, b ~=> f }` in a world where the first branch's initial
    expression fails — in step 0 the captures succeed and chain (0, 0) has a stopping output -/
example :
    let d : WorldDesc := { chains := [((0, 0), [⟨.init, 1, .fail 7, 0⟩]), ((1, 0), [⟨.init, 2, .ok 1, 0⟩])] }
    let ini : Member := ⟨.initial, false, .none, [⟨.expr, []⟩]⟩
    let c : SpecCfg := ⟨mkWorld d, ⟨true, true, false⟩, [none, none], none,
      [[[ini]], [[ini], [⟨.andThen, true, .none, [⟨.expr, []⟩]⟩]]]⟩
    (specCapsAll c 0 (visibleSpec c.names [none, none]) (c.active 0)).res = .ok [[], []] ∧
    ((0, []) : Nat × List Value) ∈ (c.active 0).zip [[], []] ∧
    stopOf c (taskOf c (fun _ _ _ _ _ => []) 0 [none, none] (visibleSpec c.names [none, none]) (0, [])).out = true := by
  intro d ini c
  refine ⟨rfl, ?_, rfl⟩
  decide

end JoinModel.Props.C06
