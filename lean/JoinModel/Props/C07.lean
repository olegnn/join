/-
  C07 — spawn variants and alias macros agree with their plain counterparts.
  Table part: every proc-macro entry point is `generate_join(parsed, Config{..})` with three booleans
  (the extractor checks that the twelve bodies are textually identical apart from them); the extracted
  table equals the documented one, aliases have the configuration of the macro they alias, and a spawn
  variant differs from its plain counterpart in the `is_spawn` flag only.
  Semantic part (last section): with `is_spawn` switched on the reference semantics — and, by the refinement theorem, the
  generated code — ends with the same outcome.
-/
import JoinModel.Gen
import JoinModel.SpecTables
import JoinModel.Refinement
import JoinModel.Lemmas.SpawnAgree
import JoinModel.Lemmas.ParseSpec
namespace JoinModel.Props.C07
open JoinModel

/-- Configuration of the macro called `name`, from the table extracted from join/src/lib.rs. -/
def kindOf (name : String) : Option Kind :=
  (Tables.macroKinds.find? (·.name == name)).map fun r => ⟨r.isAsync, r.isTry, r.isSpawn⟩

def expand (name : String) (p : Input) : Option (Except GenErr Code) := (kindOf name).map (gen p)

/-- the extracted table is the documented one (in whatever order lib.rs defines the entry points) -/
theorem macro_kinds_documented : Tables.macroKinds.Perm SpecTables.macroKinds := by decide +kernel

theorem alias_kinds : ∀ a ∈ SpecTables.aliases, kindOf a.1 = kindOf a.2 ∧ (kindOf a.1).isSome := by decide +kernel

/-- An alias expands every input to exactly the code of the macro it aliases. -/
theorem alias_same_expansion (p : Input) :
    ∀ a ∈ SpecTables.aliases, expand a.1 p = expand a.2 p ∧ (expand a.1 p).isSome := by
  intro a ha
  obtain ⟨h1, h2⟩ := alias_kinds a ha
  exact ⟨by rw [expand, expand, h1], by rw [expand, Option.isSome_map]; exact h2⟩

/-- A spawn variant has the configuration of its plain counterpart with `is_spawn` switched on. -/
def spawnPairOk (a : String × String) : Bool :=
  match kindOf a.1, kindOf a.2 with
  | some s, some p => s.isAsync == p.isAsync && s.isTry == p.isTry && s.isSpawn && !p.isSpawn
  | _, _ => false

theorem spawn_pairs_differ_only_in_spawn : ∀ a ∈ SpecTables.spawnPairs, spawnPairOk a = true := by
  decide +kernel

/-- All twelve documented names are defined, with pairwise distinct names. -/
theorem twelve_macros : Tables.macroKinds.length = 12 ∧ (Tables.macroKinds.map (·.name)).Nodup := by decide +kernel

/-! ### spawn variants compute what their plain counterparts compute -/

def spawnOf (k : Kind) : Kind := { k with isSpawn := true }

/-- **What a run takes from the macro kind.**  Two kinds with the same `is_try` give the same outcome — values, the
    failure of a try macro — or both runs panic: `is_spawn` and `is_async` only decide where the chains run. -/
theorem specRun_kind_sim (σ : World) (parent : Option String) (p : Input) (kind kind' : Kind)
    (htry : kind'.isTry = kind.isTry) : (specRun σ parent p kind).res.sim (specRun σ parent p kind').res := by
  unfold specRun
  refine M.andThen_sim _ _ _ _ (Res.sim_refl _) fun _ => M.andThen_sim _ _ _ _ ?_ fun f => ?_
  · exact specLoop_kind_sim ⟨σ, kind, _, parent, _⟩ kind' htry _ _ _
  · simp only [specHandle, htry]
    exact Res.sim_refl _

theorem specRun_spawn_sim (σ : World) (parent : Option String) (p : Input) (kind : Kind)
    (hs : kind.isSpawn = false) (ha : kind.isAsync = false) :
    (specRun σ parent p kind).res.sim (specRun σ parent p (spawnOf kind)).res :=
  specRun_kind_sim σ parent p kind (spawnOf kind) rfl

/-- **`join!` / `join_spawn!`, `try_join!` / `try_join_spawn!`.**  On every program both variants support, the code generated
    for the thread-spawning macro and the code generated for the plain macro end with the same value (in try macros: the
    same tuple, or the same failure) — or both panic. -/
theorem spawn_agrees (σ : World) (parent : Option String) (p : Input) (kind : Kind) (code code' : Code)
    (hs : kind.isSpawn = false) (ha : kind.isAsync = false)
    (hsup : Supported p kind) (hsup' : Supported p (spawnOf kind))
    (hgen : gen p kind = .ok code) (hgen' : gen p (spawnOf kind) = .ok code') :
    (evalCode σ parent code).res.sim (evalCode σ parent code').res := by
  rw [sync_refines σ parent p kind code hsup hgen, sync_refines σ parent p (spawnOf kind) code' hsup' hgen']
  exact specRun_spawn_sim σ parent p kind hs ha

/-- **The same macro body under `join!` and `join_spawn!` (`try_join!` / `try_join_spawn!`)**, from the tokens: the parser
    does not know the macro's name, so one token list gives one parsed program; whatever it accepts (any behaviour of syn;
    default options, distinct `let` names), the two expansions end with the same value or both panic. -/
theorem accepted_spawn_agrees (o : Oracle) (toks : Toks) (σ : World) (parent : Option String) (p : Input) (kind : Kind)
    (code code' : Code) (hparse : parseMacroInput o toks = .ok p) (hs : kind.isSpawn = false) (ha : kind.isAsync = false)
    (hj : p.joiner = none) (hl : p.lazy = none) (htr : p.transpose ≠ some false)
    (hnames : (p.branches.filterMap fun b => b.pat.map (·.ident)).Nodup)
    (hgen : gen p kind = .ok code) (hgen' : gen p (spawnOf kind) = .ok code') :
    (evalCode σ parent code).res.sim (evalCode σ parent code').res := by
  have base : SupportedBase p :=
    { noJoiner := hj, noLazy := hl, namesNodup := hnames, firstInitial := parse_first_initial o toks p hparse }
  exact spawn_agrees σ parent p kind code code' hs ha
    { base with asyncNotTry := (fun h => by rw [ha] at h; cases h), transposeDefault := htr }
    { base with asyncNotTry := (fun h => by simp [spawnOf, ha] at h), transposeDefault := htr } hgen hgen'

/-- **`join_async!` / `join_async_spawn!`.**  Under the canonical schedule the two generated codes have the same events and
    the same outcome (the reference semantics does not depend on `is_spawn` for async macros; what tokio adds is outside the
    model). -/
theorem async_spawn_agrees (σ : World) (parent : Option String) (p : Input) (kind : Kind) (code code' : Code)
    (ha : kind.isAsync = true) (hsup : Supported p kind) (hsup' : Supported p (spawnOf kind))
    (hgen : gen p kind = .ok code) (hgen' : gen p (spawnOf kind) = .ok code') :
    evalCode σ parent code' = evalCode σ parent code := by
  rw [sync_refines σ parent p kind code hsup hgen, sync_refines σ parent p (spawnOf kind) code' hsup' hgen']
  unfold specRun
  have := specLoop_kind_eq ⟨σ, kind, p.branches.map (fun b => b.pat.map (·.ident)), parent,
    p.branches.map fun b => splitSteps b.members⟩ (spawnOf kind) rfl (by simp [Kind.threads, spawnOf, ha])
  simp only [this]
  rfl

theorem spawn_pairs_are_spawnOf : ∀ a ∈ SpecTables.spawnPairs,
    (match kindOf a.1, kindOf a.2 with
      | some s, some pl => decide (s = spawnOf pl) && !pl.isSpawn
      | _, _ => false) = true := by decide +kernel

/-- the hypotheses of `spawn_agrees` are satisfiable: `a |> f, b` is supported as `join!` and as `join_spawn!`, and both
    expansions exist -/
example :
    let mk (c : Comb) : Member := ⟨c, false, .none, [⟨.expr, [.ident "x"]⟩]⟩
    let p : Input := { branches := [⟨none, [mk .initial, mk .map]⟩, ⟨none, [mk .initial]⟩] }
    Supported p ⟨false, false, false⟩ ∧ Supported p (spawnOf ⟨false, false, false⟩) ∧
    (gen p ⟨false, false, false⟩).toOption.isSome = true ∧ (gen p (spawnOf ⟨false, false, false⟩)).toOption.isSome = true := by
  intro mk p
  refine ⟨⟨⟨rfl, rfl, ?_, ?_⟩, ?_, ?_⟩, ⟨⟨rfl, rfl, ?_, ?_⟩, ?_, ?_⟩, rfl, rfl⟩
  all_goals first
    | (intro b hb; simp only [p, List.mem_cons, List.not_mem_nil, or_false] at hb
       rcases hb with rfl | rfl <;> exact ⟨_, _, rfl, rfl, rfl⟩)
    | decide
    | (intro h; cases h)

end JoinModel.Props.C07
