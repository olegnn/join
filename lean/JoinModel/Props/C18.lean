/-
  C18 — a panic in any user expression reaches the caller (sequential and thread-spawning macros; the async macros
  under every schedule: last section).
-/
import JoinModel.Props.Common
import JoinModel.AsyncSpec
import JoinModel.Concrete
namespace JoinModel.Props.C18
open JoinModel JoinModel.Props

/-- a panic never turns into a value: `andThen` propagates it -/
theorem panic_propagates {α β} (m : M α) (f : α → M β) (s : Site) (h : m.res = .panic s) :
    (m.andThen f).res = .panic s ∧ (m.andThen f).trace = m.trace := M.andThen_res_panic h

/-- Sequential macros: if the chain of some branch panics in a step, the step panics (with the panic of the
    first such branch in branch order), whatever the other branches do. -/
theorem chain_panic_seq (sc : SpecCfg) (k : Nat) (vals : List (Option Value)) (vis : List (String × Value))
    (bcs : List (Nat × List Value))
    (h : ∃ bc ∈ bcs, ∃ n, (sc.σ.chain bc.1 k (specPrev sc vals bc.1 k) bc.2 vis).res = .panic n) :
    ∃ n, (specChainsSeq sc k vals vis bcs).res = .panic (.user n) := by
  rw [specChainsSeq_eq_seq]
  exact M.seq_user_panic (f := chainM sc k vals vis) (fun _ => rfl) h

/-- Thread-spawning macros: every branch thread of the step is forked, all are joined in branch order, and a
    thread that panicked makes the caller panic at its join (`.join().unwrap()`): the caller is not left
    blocked and the panic surfaces. -/
theorem chain_panic_fork (k : Nat) (outs : List (Nat × ChainOut))
    (h : ∃ bo ∈ outs, ∃ n, bo.2.res = .panic n) :
    ∃ b, (specJoins k outs).res = .panic (.joinUnwrap b k) := by
  obtain ⟨bo, hbo, n, hn⟩ := h
  obtain ⟨m, hm, s, hs, hseq⟩ := M.seq_panic (ms := outs.map (joinM k))
    ⟨_, List.mem_map_of_mem hbo, .joinUnwrap bo.1 k, by simp [joinM, hn]⟩
    (fun m hm => by
      obtain ⟨bo', -, rfl⟩ := List.mem_map.mp hm
      simp only [joinM, M.tell_andThen_res, M.lift_res]
      cases bo'.2.res <;> exact fun h => nomatch h)
  obtain ⟨bo', -, rfl⟩ := List.mem_map.mp hm
  simp only [joinM, M.tell_andThen_res, M.lift_res] at hs
  cases hr : bo'.2.res with
  | ok v => rw [hr] at hs; cases hs
  | panic n' => rw [hr] at hs; cases hs; exact ⟨_, by rw [specJoins_eq_seq, hseq]⟩

/-- A panicking block capture makes the captures of the step panic. -/
theorem capture_panic (sc : SpecCfg) (k b : Nat) (vis : List (String × Value)) (keys : List (Nat × Nat))
    (h : ∃ ei ∈ keys, ∃ n, sc.σ.capture b k ei.1 ei.2 vis = .panic n) :
    ∃ n, (specCapsBranch sc k b vis keys).res = .panic (.user n) := by
  rw [specCapsBranch_eq_seq]
  exact M.seq_user_panic (f := capM sc k b vis) (fun _ => by simp [capM]) h

/-- If step k panics — in a capture, in a chain on the calling thread, or at the join of a panicked branch thread —, the
    loop panics with that panic, and its trace consists of events of step k only: nothing of a later step runs. -/
theorem loop_panics_in_step (sc : SpecCfg) (rem k : Nat) (vals : List (Option Value)) (s : Site)
    (h : (specStep sc k vals).res = .panic s) :
    (specLoop sc rem k vals).res = .panic s ∧ ∀ e ∈ (specLoop sc rem k vals).trace, e.step = some k := by
  rw [specLoop_eq]
  obtain ⟨h1, h2⟩ := panic_propagates _ (specTail sc rem k vals) s h
  exact ⟨h1, h2 ▸ specStep_step sc k vals⟩

/-- `loop_panics_in_step` for a panic in the captures of step k. -/
theorem loop_panics_in_captures (sc : SpecCfg) (rem k : Nat) (vals : List (Option Value)) (s : Site)
    (h : (specCapsAll sc k (visibleSpec sc.names vals) (sc.active k)).res = .panic s) :
    (specLoop sc rem k vals).res = .panic s ∧ ∀ e ∈ (specLoop sc rem k vals).trace, e.step = some k :=
  loop_panics_in_step sc rem k vals s (panic_propagates _ _ s h).1

/-- `loop_panics_in_step` for a panic in the chains of step k (a chain on the calling thread, or the join of a panicked
    branch thread). -/
theorem loop_panics_in_chains (sc : SpecCfg) (rem k : Nat) (vals : List (Option Value)) (caps : List (List Value))
    (s : Site) (hc : (specCapsAll sc k (visibleSpec sc.names vals) (sc.active k)).res = .ok caps)
    (h : (specChains sc k vals (visibleSpec sc.names vals) (sc.active k) caps).res = .panic s) :
    (specLoop sc rem k vals).res = .panic s ∧ ∀ e ∈ (specLoop sc rem k vals).trace, e.step = some k :=
  loop_panics_in_step sc rem k vals s ((M.andThen_trace_ok hc).2.trans h)

/-- A panicking handler call panics the macro. -/
theorem handler_panic (sc : SpecCfg) (vs : List Value) (n : Nat) (h : sc.σ.handlerCall vs = .panic n) :
    (specHandle sc (some .then_) (.vals vs)).res = .panic (.user n) ∧
    (specHandle sc (some .map) (.vals vs)).res = .panic (.user n) ∧
    (specHandle sc (some .andThen) (.vals vs)).res = .panic (.user n) := by
  simp [specHandle, M.andThen, M.tell, M.lift, h, UR.toRes]

/-- The generated code panics exactly when the reference semantics does, with the same events before it. -/
theorem generated_panics (σ : World) (parent : Option String) (p : Input) (kind : Kind) (code : Code)
    (hs : Supported p kind) (hgen : gen p kind = .ok code) (s : Site) :
    (evalCode σ parent code).res = .panic s ↔ (specRun σ parent p kind).res = .panic s := by
  rw [sync_refines σ parent p kind code hs hgen]

/-- …from the tokens the caller wrote: whatever the parser accepts (any behaviour of syn), the code expanded from it
    panics exactly when — and with the panic with which — the reference semantics of the parsed program does; a panic of
    user code is never swallowed or replaced. -/
theorem accepted_panics (o : Oracle) (toks : Toks) (σ : World) (parent : Option String) (p : Input) (kind : Kind)
    (code : Code) (hparse : parseMacroInput o toks = .ok p) (hd : PlainInvocation p kind) (hgen : gen p kind = .ok code)
    (s : Site) : (evalCode σ parent code).res = .panic s ↔ (specRun σ parent p kind).res = .panic s :=
  generated_panics σ parent p kind code (accepted_supported o toks p kind hparse hd) hgen s

/-! ### async macros, every schedule -/

/-- **A panicking chain reaches the caller, whatever the schedule** (non-try async macros).  If in step `k` the block
    captures succeed and some active chain panics, under every schedule that ends with all gates open the future completes
    with the panic of one of step `k`'s panicking chains — never with a value — and nothing of a later step (nor the
    handler, whatever follows the loop: `kont`) has run. -/
theorem async_chain_panic_every_schedule (c : SpecCfg) (pend : Pend) (rem k : Nat) (vals : List (Option Value))
    (capss : List (List Value)) (htry : c.kind.isTry = false)
    (hc : (specCapsAll c k (visibleSpec c.names vals) (c.active k)).res = .ok capss)
    (bc : Nat × List Value) (hbc : bc ∈ (c.active k).zip capss) (n : Nat)
    (hp : (taskOf c pend k vals (visibleSpec c.names vals) bc).out = .panic n)
    {ρ' : Type} (kont : Res Fin → List MEv × Plan MEv (UR Value) ρ') (sm : Res Fin → ρ') (gs : List Gates) :
    (∀ e ∈ (((planLoop c pend rem k vals).2.bind kont sm).2.run (gs ++ [allOpen])).1, e.step = some k) ∧
    ∃ m, (((planLoop c pend rem k vals).2.bind kont sm).2.run (gs ++ [allOpen])).2 = .done (sm (.panic (.user m))) ∧
      UR.panic m ∈ ((c.active k).zip capss).map (fun bc => (taskOf c pend k vals (visibleSpec c.names vals) bc).out) := by
  obtain ⟨h1, h2⟩ := planLoop_stopper c pend rem k vals capss hc bc hbc (by rw [hp]; rfl) kont sm (gs ++ [allOpen])
  refine ⟨h1, ?_⟩
  rcases h2 with h | ⟨o, h2, h3, h4⟩
  · -- polled with every gate open the future is complete: it cannot still be in the step
    rw [Plan.run_allOpen_done] at h; cases h
  · -- in a non-try macro only a panic stops a step
    cases o with
    | ok v => simp [stopOf, isPanicUR, htry] at h3
    | panic m => exact ⟨m, h2, h4⟩

/-- the hypotheses are satisfiable: `join_async! { a, b ~|> f }` in a world where the first branch's initial expression
    panics — in step 0 the captures succeed and chain (0, 0) panics -/
example :
    let d : WorldDesc := { chains := [((0, 0), [⟨.init, 1, .panic 1, 0⟩]), ((1, 0), [⟨.init, 2, .ok 1, 0⟩])] }
    let ini : Member := ⟨.initial, false, .none, [⟨.expr, []⟩]⟩
    let c : SpecCfg := ⟨mkWorld d, ⟨true, false, false⟩, [none, none], none,
      [[[ini]], [[ini], [⟨.map, true, .none, [⟨.expr, []⟩]⟩]]]⟩
    c.kind.isTry = false ∧
    (specCapsAll c 0 (visibleSpec c.names [none, none]) (c.active 0)).res = .ok [[], []] ∧
    ((0, []) : Nat × List Value) ∈ (c.active 0).zip [[], []] ∧
    (taskOf c (fun _ _ _ _ _ => []) 0 [none, none] (visibleSpec c.names [none, none]) (0, [])).out = .panic 1 := by
  intro d ini c
  refine ⟨rfl, rfl, ?_, rfl⟩
  decide

end JoinModel.Props.C18
