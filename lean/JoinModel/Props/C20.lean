/-
  C20 — expansion is a pure function of the macro input.
  In the model this holds by construction: `gen` is a Lean function, and a history of expansions is
  `List.map` of it.  The theorems below state exactly that; the assurance about the *implementation*
  comes from the tie (K1 purity mode: every input expanded repeatedly, in shuffled orders, interleaved
  and from 8 threads must always yield the model's single output) and the source audit.
-/
import JoinModel.Gen
import JoinModel.Print
namespace JoinModel.Props.C20
open JoinModel

def expandAll (h : List (Input × Kind)) : List (Except GenErr Toks) :=
  h.map fun (p, k) => (gen p k).map printCode

/-- The output for an invocation does not depend on what was expanded before or after it. -/
theorem history_independent (pre post : List (Input × Kind)) (p : Input) (k : Kind) :
    (expandAll (pre ++ (p, k) :: post))[pre.length]? = some ((gen p k).map printCode) := by
  simp [expandAll]

/-- Reordering the history reorders the outputs and changes none. -/
theorem order_independent (h₁ h₂ : List (Input × Kind)) (hp : h₁.Perm h₂) :
    (expandAll h₁).Perm (expandAll h₂) := hp.map _

/-- Repetition yields identical outputs. -/
theorem repeat_identical (p : Input) (k : Kind) (n : Nat) :
    ∀ o ∈ expandAll (List.replicate n (p, k)), o = (gen p k).map printCode := by
  intro o ho
  simp [expandAll] at ho
  exact ho.2

end JoinModel.Props.C20
