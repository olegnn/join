/-
  C16 — options: custom joiner, lazy branches, transpose switch, crate path.
  Statements about the structured code `genStep` / `genLink` / `genFinal` produce, for every context
  (∀ programs, kinds, option values).  "Options are accepted in any order and subset, each at most once" is a
  property of the parser: the last section states it about the parser model (`options_any_order_subset`,
  `options_order_irrelevant`, `option_twice_rejected`); K1 / K1-parse enumerate every subset, permutation and duplicate
  position against the real parser (tools/props.py).
-/
import JoinModel.Lemmas.CtxFacts
import JoinModel.Lemmas.OptionParse
import JoinModel.Print
import JoinModel.Lemmas.PrintCount
import JoinModel.Lemmas.TokEq
namespace JoinModel.Props.C16
open JoinModel

/-- how the step's operands are joined -/
theorem joiner_once_per_step (c : Ctx) (k : Nat) (s : StepCode) (h : genStep c k = .ok s) :
    s.form =
      (if c.activeCount k > 1 then
        match c.joiner with
        | some j => JoinForm.call j
        | none =>
          if c.kind.isAsync then
            JoinForm.futJoin ((c.fcp.getD []) ++ [pj ':', pu ':', id' (if c.kind.isTry then "try_join" else "join"), pu '!'])
              c.kind.isTry
          else JoinForm.tuple
       else if c.kind.isAsync then JoinForm.awaitCat else JoinForm.tuple) :=
  (genStep_inv h).2.2.1

/-- The custom joiner is applied exactly once per step with more than one active branch — `joiner(e₁, …, eₙ)`, the
    operands being the chains of exactly the active branches in branch order — and not at all in a step with a
    single active branch. -/
theorem custom_joiner_applied (c : Ctx) (k : Nat) (s : StepCode) (j : Toks) (h : genStep c k = .ok s)
    (hj : c.joiner = some j) :
    (c.activeCount k > 1 → s.form = .call j) ∧ (¬ c.activeCount k > 1 → s.form ≠ .call j ∨ c.kind.isAsync = false) := by
  have := joiner_once_per_step c k s h
  constructor
  · intro hm; rw [this]; simp [hm, hj]
  · intro hm
    by_cases ha : c.kind.isAsync = true
    · left; rw [this]; simp [hm, ha]
    · right; simpa using ha

/-- the joiner application prints as `joiner ( e₁ , … , eₙ )`, once -/
theorem joiner_printed_once (s : StepCode) (j : Toks) (h : s.form = .call j) :
    ∃ pre post, printStep s = pre ++ j ++ [paren (commaSep (s.elems.map printElem))] ++ post := by
  refine ⟨(s.tbs.flatMap fun (b, arg) => [kw "let", (Var.j b).tok, pu '=', Var.tb.tok, paren [usizeLit arg], pu ';'])
      ++ s.defs.flatMap printCapDef ++ [kw "let", (Var.sr s.k).tok, pu '='],
    [pu ';'] ++ (match s.spawnJoin with
      | none => []
      | some ps =>
        [kw "let", (Var.sr s.k).tok, pu '=',
          paren (commaSep (ps.map fun p => projToks s.k p ++ call0 "join" ++ call0 "unwrap")), pu ';']), ?_⟩
  simp only [printStep, h, List.append_assoc]
  cases s.spawnJoin <;> rfl

/-- the operands are the active branches' chains in branch order, each handed over as `move || chain` exactly when
    `lazy_branches` is on (default: thread-spawning macros only) and more than one branch is active -/
theorem lazy_closures {c : Ctx} {names : List (Option String)} (ok : CtxOK c names) (σ : World) (parent : Option String)
    (k : Nat) (s : StepCode) (h : genStep c k = .ok s) :
    s.elems.map (fun e => (e.b, e.lazy)) = (c.activeIdx k).map fun b => (b, c.multi k && c.lazy) := by
  obtain ⟨_, _, he, _⟩ := genStep_shape ok σ parent k s h
  have := congrArg (List.map fun (t : Nat × Bool × ElemWrap × Var × List Member) => (t.1, t.2.1)) he
  simpa [Elem.sem, List.map_map, Function.comp_def] using this

theorem lazy_prints_move_closure (e : Elem) (h : e.lazy = true) (hw : e.wrap = .plain) :
    printElem e = [kw "move", pj '|', pu '|'] ++ e.chain := by
  simp [printElem, h, hw]

/-- defaults: lazy for the thread-spawning macros only, transposition for the sync try macros only -/
theorem option_defaults (p : Input) (kind : Kind) (c : Ctx) (h : mkCtx p kind = .ok c) :
    c.lazy = p.lazy.getD (kind.isSpawn && !kind.isAsync) ∧ c.transpose = p.transpose.getD (kind.isTry && !kind.isAsync) ∧
    c.joiner = p.joiner ∧ (kind.isAsync = true → c.fcp = some (p.fcp.getD defaultFcp)) := by
  have hi := mkCtx_inv h
  exact ⟨hi.lazy, hi.transpose, hi.joiner, fun ha => by cases hp : p.fcp <;> simp [hi.fcp, hp, ha]⟩

/-- `transpose_results(false)`: in try macros every step but the last scrutinises the joiner's output with
    `match … { Ok(x) => …, Err(err) => Err(err) }` and continues with the payload; with transposition the success
    check over the active branches is used instead. -/
theorem transpose_false_steps (c : Ctx) (k : Nat) (htry : c.kind.isTry = true) :
    (c.transpose = false → ∃ rw, genLink c k = .matchOk rw (c.activePats k)) ∧
    (c.transpose = true → genLink c k = .failCheck (c.activePats k) (c.activeVars k) (c.failArms k)) := by
  constructor
  · intro h; simp [genLink, htry, h]
  · intro h; simp [genLink, htry, h]

theorem transpose_false_final (c : Ctx) (k : Nat) (htry : c.kind.isTry = true) (h : c.transpose = false) :
    (∃ ps vs, genFinal c k = .matchOkTuple ps vs) ∨ (∃ ps rs vs, genFinal c k = .matchOkTranspose ps rs vs) ∨
      genFinal c k = .matchOkSingle := by
  simp only [genFinal, h, htry, Bool.false_and, Bool.false_eq_true, if_false, if_true]
  by_cases hn : c.n > 1
  · simp only [hn, if_true]
    by_cases he : (c.inactiveVars k).isEmpty
    · left; simp [he]
    · right; left; simp [he]
  · right; right; simp [hn]

def futureOf (fcp : Toks) : Toks :=
  fcp ++ pathSep ++ [kw "future"] ++ pathSep ++ [kw "Future", pu '<', kw "Output", pu '=', kw "T", pu '>']

/-- `futures_crate_path(p)`: every futures item of the async frame comes from `p` — the `use` line, the joiner
    macros (`joiner_once_per_step`) and both `Future` bounds of the `__spawn_tokio` helper print the same path. -/
theorem fcp_everywhere (fcp : Toks) :
    useFutures fcp = [kw "use"] ++ fcp ++ pathSep ++
      [brace [kw "FutureExt", pu ',', kw "TryFutureExt", pu ',', kw "StreamExt", pu ',', kw "TryStreamExt"], pu ';'] ∧
    fnSpawnTokio fcp =
      [kw "fn", Var.spawnTokio.tok, pu '<', kw "T", pu ',', kw "F", pu '>', paren [kw "__future", pu ':', kw "F"],
        pj '-', pu '>', kw "impl"] ++ futureOf fcp ++ [kw "where", kw "F", pu ':'] ++ futureOf fcp ++
      [pu '+', kw "Send", pu '+', pj '\'', kw "static"] ++ [pu ',', kw "T", pu ':', kw "Send"] ++
      [pu '+', pj '\'', kw "static", pu ','] ++
      [brace (pathSep ++ [kw "tokio"] ++ pathSep ++ [kw "spawn", paren [kw "__future"], pu '.', kw "map",
        paren [pu '|', Var.v.tok, pu '|', Var.v.tok, pu '.', kw "unwrap_or_else",
          paren [pu '|', kw "err", pu '|', kw "panic", pu '!',
            paren [.lit "\"tokio JoinHandle failed: {:#?}\"", pu ',', kw "err"]]]])] := by
  constructor
  · simp [useFutures, List.append_assoc]
  · simp [fnSpawnTokio, futureOf, List.append_assoc]

/-! ### The option parser: any order, any subset, each at most once

  `Lemmas/OptionParse.lean` shows that the option loop of `JoinInputDefault::parse` — rounds in which the four keywords
  are tried in a fixed order — does the same as reading the written options one after the other.  `its` are the written
  options `keyword(content)`, `rest` is what follows them (it does not start with an option keyword). -/

/-- **Any order and any subset**: options with pairwise different keywords whose arguments parse (a path, a boolean
    literal) are all accepted, whatever their order and number; each sets its own field, the rest of the input is
    left for the branches. -/
theorem options_any_order_subset (o : Oracle) (its : List OptItem) (rest : Toks) (hok : ∀ it ∈ its, ItemOK o it)
    (hnd : (its.map (·.kw)).Nodup) (hrest : optionKw rest = none) :
    parseOptions o ((renderOpts its ++ rest).length + 1) ((renderOpts its ++ rest).length + 1) (renderOpts its ++ rest) {} =
      .ok (its.foldl (applyItem o) {}, rest) :=
  parseOptions_renderOpts o its rest hok hnd hrest

theorem applyItem_comm (o : Oracle) (opts : Opts) (a b : OptItem) (ha : ItemOK o a) (hb : ItemOK o b) (hne : a.kw ≠ b.kw) :
    applyItem o (applyItem o opts a) b = applyItem o (applyItem o opts b) a :=
  applyItem_comm_of_ne o opts a b ha.1 hb.1 hne

/-- **The order does not matter**: two orders of the same options give the same record. -/
theorem options_order_irrelevant (o : Oracle) (its₁ its₂ : List OptItem) (hp : its₁.Perm its₂) :
    (∀ it ∈ its₁, ItemOK o it) → (its₁.map (·.kw)).Nodup → ∀ opts : Opts,
    its₁.foldl (applyItem o) opts = its₂.foldl (applyItem o) opts := by
  intro hok hnd opts
  -- two different items of `its₁` have different keywords, so they commute
  have hc : its₁.Pairwise fun x y => ∀ z, applyItem o (applyItem o z x) y = applyItem o (applyItem o z y) x :=
    (List.pairwise_map.1 hnd).imp_of_mem fun hx hy hne z => applyItem_comm o z _ _ (hok _ hx) (hok _ hy) hne
  exact hp.foldl_eq' (fun _ hx _ hy =>
    List.Pairwise.forall_of_forall_of_flip (fun _ _ _ => rfl) hc (hc.imp fun h z => (h z).symm) hx hy) opts

/-- **Each at most once**: a keyword written a second time — anywhere after its first occurrence, whatever stands in
    between and behind — is rejected with the "specified twice" error for that keyword. -/
theorem option_twice_rejected (o : Oracle) (pre : List OptItem) (b : OptItem) (post : List OptItem) (rest : Toks)
    (hok : ∀ it ∈ pre ++ b :: post, ItemOK o it) (hnd : (pre.map (·.kw)).Nodup) (hdup : b.kw ∈ pre.map (·.kw))
    (hrest : optionKw rest = none) :
    parseOptions o ((renderOpts (pre ++ b :: post) ++ rest).length + 1) ((renderOpts (pre ++ b :: post) ++ rest).length + 1)
        (renderOpts (pre ++ b :: post) ++ rest) {} = .error (.optionTwice (shortName b.kw)) := by
  have hpre : ∀ it ∈ pre, ItemOK o it := fun it h => hok it (List.mem_append_left _ h)
  rw [parseOptions_rendered o _ rest hok hrest,
    seqSpec_twice o pre b post {} hpre (hok b (by simp)).1 hnd (fun it _ => isSet_default _) (Or.inr hdup)]

-- `Lemmas/TokEq`: `==` on token trees is equality, so equations between token lists are decidable and the kernel can
-- evaluate the test vector
attribute [local instance 5] instDecidableEqOfLawfulBEq

/-- non-vacuity: two options in the "wrong" order are accepted and set their fields; the same keyword twice is rejected -/
example :
    let o : Oracle := { validExpr := fun _ => false, validType := fun _ => false, isBlock := fun _ => false,
                        letSplit := fun _ => .notLet, reprintExpr := id, reprintType := id, exprPrefix := fun _ => none,
                        pathPrefix := fun ts => some ts.length, litBool := fun ts => if ts == [.ident "true"] then some true else none }
    let lazy : Toks := [.ident "lazy_branches", .group .paren [.ident "true"]]
    let joiner : Toks := [.ident "custom_joiner", .group .paren [.ident "j"]]
    ((parseOptions o 9 9 (lazy ++ joiner ++ [.ident "a"]) {}).toOption.map
        (fun r => (r.1.lazy, r.1.joiner, r.2))) = some (some true, some [.ident "j"], [.ident "a"]) ∧
    (parseOptions o 9 9 (lazy ++ joiner ++ lazy ++ [.ident "a"]) {}).toOption.isSome = false := by
  decide +kernel

/-! ### the joiner in the emitted token stream -/

/-- **`custom_joiner(j)` is written into the expansion once per step that has more than one active branch, and nowhere
    else** (a configured futures path does not displace it): for an identifier `s` that the caller wrote only inside `j`, the
    occurrences of `s` in the whole printed expansion are Σ over the steps k of (occurrences of `s` in `j` if step k has more
    than one active branch, else 0). -/
theorem custom_joiner_once_per_joined_step (s : String) (hm : PMarker s) (p : Input) (kind : Kind) (code : Code) (c : Ctx)
    (j : Toks) (hc : mkCtx p kind = .ok c) (h : gen p kind = .ok code) (hinit : InitialOnlyFirst p) (hj : p.joiner = some j)
    (hpats : ∀ b ∈ p.branches, ∀ pt, b.pat = some pt → pt.ident ≠ s ∧ cntToks s pt.toks = 0)
    (hfcp : cntToks s (p.fcp.getD []) = 0) (hfut : "futures" ≠ s) (hops : cntProgram s p = 0)
    (hhd : cntToks s ((p.handler.map (·.2)).getD []) = 0) :
    cntToks s (printCode code) = sumR (fun i => if c.activeCount i > 1 then cntToks s j else 0) 0 c.maxSteps :=
  joiner_count hm p kind code c j hc h hinit hj hpats hfcp hfut hops hhd

/-- Non-vacuity: depths (2, 2, 1) under `join_async!` with `futures_crate_path(my::fut) custom_joiner(my_join)`: both steps
    have more than one active branch, and `my_join` occurs twice in the expansion; with depths (1, 2) once. -/
example :
    let ini : Member := ⟨.initial, false, .none, [⟨.expr, [.ident "a"]⟩]⟩
    let stp : Member := ⟨.map, true, .none, [⟨.expr, [.ident "f"]⟩]⟩
    let opts (bs : List Branch) : Input :=
      { fcp := some [.ident "my", pj ':', pu ':', .ident "fut"], joiner := some [.ident "my_join"], branches := bs }
    (match gen (opts [⟨none, [ini, stp]⟩, ⟨none, [ini, stp]⟩, ⟨none, [ini]⟩]) ⟨true, false, false⟩ with
      | .ok code => cntToks "my_join" (printCode code) | .error _ => 0) = 2 ∧
    (match gen (opts [⟨none, [ini]⟩, ⟨none, [ini, stp]⟩]) ⟨true, false, false⟩ with
      | .ok code => cntToks "my_join" (printCode code) | .error _ => 0) = 1 := by
  decide +kernel

end JoinModel.Props.C16
