/-
  C04 — result positions: branch i's final value is element i.
-/
import JoinModel.Props.Common
import JoinModel.Lemmas.OrderFacts
namespace JoinModel.Props.C04
open JoinModel JoinModel.Props

theorem depth_le_max (sc : SpecCfg) (i : Nat) : sc.depth i ≤ sc.maxDepth := by
  simp only [SpecCfg.depth, SpecCfg.maxDepth]
  cases h : sc.chains[i]? with
  | none => simp
  | some ch =>
    simp only [Option.map_some, Option.getD_some]
    exact (foldl_max_le.mp (Nat.le_refl _)).2 _ (List.mem_map.mpr ⟨ch, List.mem_of_getElem? h, rfl⟩)

/-- Non-try macros: element `i` of the result is the value that the chain of branch `i`'s own last step
    returned — whatever the number of branches and the depth profile. -/
theorem result_positions (σ : World) (parent : Option String) (p : Input) (kind : Kind)
    (hnt : kind.isTry = false) (vs : List Value) (h : (loopOf σ parent p kind).res = .ok (.vals vs))
    (i : Nat) (hi : i < p.branches.length) :
    ∃ v, vs[i]? = some v ∧
      (i, (cfgFor σ parent p kind).depth i - 1, v) ∈ chainEnds (loopOf σ parent p kind).trace := by
  have hn : (cfgFor σ parent p kind).n = p.branches.length := by simp [SpecCfg.n, cfgFor]
  have hpos : 0 < (cfgFor σ parent p kind).depth i := by
    simp only [SpecCfg.depth, cfgFor, List.getElem?_map, List.getElem?_eq_getElem hi, Option.map_some, Option.getD_some]
    exact List.length_pos_iff.mpr (splitSteps_ne_nil _)
  have := specLoop_positions (cfgFor σ parent p kind) hnt _ 0 _ (by simp [SpecCfg.n])
    (fun j => by have := depth_le_max (cfgFor σ parent p kind) j; omega) vs h i (hn ▸ hi)
  exact this.2 hpos

/-- One step of the loop only touches the positions of the branches active in it: a branch that has finished
    keeps its value untouched until the end. -/
theorem finished_branch_untouched (vals : List (Option Value)) (act : List Nat) (news : List Value) (i : Nat)
    (hi : i ∉ act) : (updVals vals act news)[i]? = vals[i]? := updVals_not_mem vals act news i hi

/-- …and sets the position of an active branch to what that branch's own chain returned. -/
theorem active_branch_gets_own_result (vals : List (Option Value)) (act : List Nat) (news : List Value)
    (hl : act.length = news.length) (hnd : act.Nodup) (pos : Nat) (hpos : pos < act.length)
    (hb : act[pos] < vals.length) :
    (updVals vals act news)[act[pos]]? = some (some (news[pos]'(hl ▸ hpos))) :=
  updVals_mem vals act news hl hnd pos hpos hb

/-- The handler receives the values in the same order as the result lists them: both are built from the very
    same list. -/
theorem handler_same_order (sc : SpecCfg) (vs : List Value) (hnt : sc.kind.isTry = false) :
    specHandle sc none (.vals vs) = M.ret (mkTuple vs) ∧
    specHandle sc (some .then_) (.vals vs) =
      ((M.tell [.ev (.handlerCall vs)]).andThen fun _ => M.lift (sc.σ.handlerCall vs).toRes) := by
  simp [specHandle, hnt]

/-- a single branch yields its bare value -/
theorem single_branch_bare (v : Value) : mkTuple [v] = v := rfl

/-- **From the tokens to the result tuple** (non-try macros, no handler): whatever token list the parser accepts — any
    behaviour of syn —, if the expanded code returns at all, it returns the tuple whose element `i` is the value branch
    `i`'s own last chain returned; one element per branch written, in the order written. -/
theorem accepted_result_positions (o : Oracle) (toks : Toks) (σ : World) (parent : Option String) (p : Input)
    (kind : Kind) (code : Code) (hparse : parseMacroInput o toks = .ok p) (hd : PlainInvocation p kind)
    (hgen : gen p kind = .ok code) (hnt : kind.isTry = false) (hh : p.handler = none) (r : Value)
    (hr : (evalCode σ parent code).res = .ok r) :
    ∃ vs, r = mkTuple vs ∧ ∀ i, i < p.branches.length → ∃ v, vs[i]? = some v ∧
      (i, (cfgFor σ parent p kind).depth i - 1, v) ∈ chainEnds (evalCode σ parent code).trace := by
  rw [accepted_eq_reference o toks σ parent p kind code hparse hd hgen] at hr ⊢
  obtain ⟨ht, hres⟩ := run_trace_no_handler σ parent p kind hh
  rw [ht]
  rw [hres] at hr
  obtain ⟨f, hf, hr⟩ := M.andThen_res_ok hr
  cases f with
  | vals vs =>
    have hk : (cfgFor σ parent p kind).kind.isTry = false := hnt
    simp [specHandle, hk, M.ret] at hr
    exact ⟨vs, hr.symm, fun i hi => result_positions σ parent p kind hnt vs hf i hi⟩
  | failed v =>
    have := specLoop_post (cfgFor σ parent p kind) ((cfgFor σ parent p kind).maxDepth - 1) 0
      (List.replicate (cfgFor σ parent p kind).n none) (.failed v) hf
    exact absurd this.2 (by simp [cfgFor, hnt])

/-- Non-vacuity of `result_positions`: depths (1, 3, 2), every chain returns a value that names its branch and step;
    the run ends with the three values in branch order, each taken from the branch's own last step. -/
def posWorld : World where
  capture _ _ _ _ _ := .ok (.atom 0)
  chain b k _ _ _ := ⟨[], .ok (.succ (.atom (b + 10 * k)))⟩
  handlerDef := .ok ()
  handlerCall _ := .ok (.atom 0)
  joiner _ vs := .ok (mkTuple vs)

def posProg : Input :=
  let ini : Member := ⟨.initial, false, .none, [⟨.expr, []⟩]⟩
  let stp : Member := ⟨.map, true, .none, [⟨.expr, []⟩]⟩
  { branches := [⟨none, [ini]⟩, ⟨none, [ini, stp, stp]⟩, ⟨none, [ini, stp]⟩] }

example : (loopOf posWorld none posProg ⟨false, false, false⟩).res = .ok (.vals [.succ (.atom 0), .succ (.atom 21), .succ (.atom 12)]) := by rfl
example : (loopOf posWorld none posProg ⟨false, false, true⟩).res = .ok (.vals [.succ (.atom 0), .succ (.atom 21), .succ (.atom 12)]) := by rfl

/-- Non-vacuity of the `accepted_*` theorems: an oracle that takes single tokens for expressions, and the token list
    `a |> f , b` under `join!`. -/
example :
    let o : Oracle := { validExpr := fun ts => ts.length == 1, validType := fun _ => false, isBlock := fun _ => false,
                        letSplit := fun _ => .notLet, reprintExpr := id, reprintType := id, exprPrefix := fun _ => none,
                        pathPrefix := fun _ => none, litBool := fun _ => none }
    let toks : Toks := [.ident "a", .punct '|' true, .punct '>' false, .ident "f", .punct ',' false, .ident "b"]
    ∃ p, parseMacroInput o toks = .ok p ∧ p.branches.length = 2 ∧ PlainInvocation p ⟨false, false, false⟩ ∧
      (gen p ⟨false, false, false⟩).toOption.isSome = true := by
  intro o toks
  refine ⟨_, rfl, rfl, ⟨rfl, rfl, by decide, by decide, by decide⟩, by decide +kernel⟩

end JoinModel.Props.C04
