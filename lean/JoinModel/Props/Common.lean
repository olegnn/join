/-
  Shared vocabulary of the property theorems about run-time behaviour: the reference loop of a macro invocation
  (`loopOf`), what the parser must have accepted for the refinement to apply (`PlainInvocation`), and the bridge from
  the tokens the caller wrote to the reference semantics (`accepted_supported`, `accepted_eq_reference`).
-/
import JoinModel.Refinement
import JoinModel.Lemmas.ParseSpec
namespace JoinModel.Props
open JoinModel

/-- reference configuration of the invocation `kind!{ p }` in world `σ` on thread `parent` -/
def cfgFor (σ : World) (parent : Option String) (p : Input) (kind : Kind) : SpecCfg :=
  ⟨σ, kind, p.branches.map (fun b => b.pat.map (·.ident)), parent, p.branches.map fun b => splitSteps b.members⟩

def loopOf (σ : World) (parent : Option String) (p : Input) (kind : Kind) : M Fin :=
  specLoop (cfgFor σ parent p kind) ((cfgFor σ parent p kind).maxDepth - 1) 0
    (List.replicate (cfgFor σ parent p kind).n none)

/-- evaluating the handler expression `let __h = H;` -/
def handlerDefOf (σ : World) (p : Input) : M Unit :=
  match p.handler with
  | some _ => (M.tell [.ev .handlerDef]).andThen fun _ => M.lift σ.handlerDef.toRes
  | none => M.ret ()

theorem specRun_eq (σ : World) (parent : Option String) (p : Input) (kind : Kind) :
    specRun σ parent p kind =
      (handlerDefOf σ p).andThen fun _ =>
      (loopOf σ parent p kind).andThen fun f => specHandle (cfgFor σ parent p kind) (p.handler.map Prod.fst) f := rfl

/-- What the refinement asks of an invocation *beyond* what the parser itself guarantees: no `custom_joiner`, no
    `lazy_branches`, default transposition, pairwise distinct `let` names (rustc rejects a repeated binding), and a macro
    kind other than the async try ones (which have `async_try_refines`). -/
structure PlainInvocation (p : Input) (kind : Kind) : Prop where
  noJoiner : p.joiner = none
  noLazy : p.lazy = none
  namesNodup : (p.branches.filterMap fun b => b.pat.map (·.ident)).Nodup
  asyncNotTry : kind.isAsync = true → kind.isTry = false
  transposeDefault : p.transpose ≠ some false

/-- every program the parser model accepts — for every behaviour of syn — is one the refinement speaks about -/
theorem accepted_supported (o : Oracle) (toks : Toks) (p : Input) (kind : Kind)
    (hparse : parseMacroInput o toks = .ok p) (hd : PlainInvocation p kind) : Supported p kind :=
  { noJoiner := hd.noJoiner, noLazy := hd.noLazy, namesNodup := hd.namesNodup, asyncNotTry := hd.asyncNotTry,
    transposeDefault := hd.transposeDefault, firstInitial := parse_first_initial o toks p hparse }

/-- **From the macro's tokens to its behaviour.**  Parser, generator and evaluation of the generated code composed:
    whatever token list the parser accepts (any oracle), the generated code behaves like the reference semantics of what
    was parsed. -/
theorem accepted_eq_reference (o : Oracle) (toks : Toks) (σ : World) (parent : Option String) (p : Input) (kind : Kind)
    (code : Code) (hparse : parseMacroInput o toks = .ok p) (hd : PlainInvocation p kind) (hgen : gen p kind = .ok code) :
    evalCode σ parent code = specRun σ parent p kind :=
  sync_refines σ parent p kind code (accepted_supported o toks p kind hparse hd) hgen

theorem run_trace_no_handler (σ : World) (parent : Option String) (p : Input) (kind : Kind) (hh : p.handler = none) :
    (specRun σ parent p kind).trace = (loopOf σ parent p kind).trace ∧
    (specRun σ parent p kind).res =
      ((loopOf σ parent p kind).andThen fun f => specHandle (cfgFor σ parent p kind) none f).res := by
  rw [specRun_eq]
  simp only [handlerDefOf, hh, Option.map_none, M.ret_andThen]
  refine ⟨?_, trivial⟩
  rcases M.andThen_cases (loopOf σ parent p kind) (fun f => specHandle (cfgFor σ parent p kind) none f)
    with ⟨f, -, ht, -⟩ | ⟨-, ht, -⟩ <;> rw [ht]
  cases f <;> simp [specHandle]

end JoinModel.Props
