/-
  C05 — try macros: all-success tuple, otherwise the first failure, unchanged.

  Stated on the reference loop and carried to the generated code by `sync_refines`
  (Refinement.lean).  `chainEnds t` lists the chains that ran to completion in trace `t` as
  `(branch, step, returned value)`, including those that ran on spawned threads.
-/
import JoinModel.Props.Common
import JoinModel.Lemmas.TryFacts
namespace JoinModel.Props.C05
open JoinModel JoinModel.Props

/-- A try macro whose loop ends in success: every chain that ran returned `Some`/`Ok`. -/
theorem try_success_all_chains_succeeded (σ : World) (parent : Option String) (p : Input) (kind : Kind)
    (htry : kind.isTry = true) (ps : List Value) (h : (loopOf σ parent p kind).res = .ok (.vals ps)) :
    ∀ e ∈ chainEnds (loopOf σ parent p kind).trace, e.2.2.isSucc = true :=
  specLoop_try (cfgFor σ parent p kind) htry _ 0 _ (by simp [SpecCfg.n]) (allSucc_init' _) (.vals ps) h

/-- A try macro whose loop ends in failure returns, unchanged, the value `v` that the chain of branch `b`
    returned in step `j`, where `j` is the earliest step in which a chain failed and `b` the lowest-numbered
    branch failing in that step.  (Sequential and thread-spawning macros.) -/
theorem try_failure_is_first_failure (σ : World) (parent : Option String) (p : Input) (kind : Kind)
    (htry : kind.isTry = true) (v : Value) (h : (loopOf σ parent p kind).res = .ok (.failed v)) :
    v.isSucc = false ∧ ∃ b j, (b, j, v) ∈ chainEnds (loopOf σ parent p kind).trace ∧
      ∀ e ∈ chainEnds (loopOf σ parent p kind).trace, e.2.2.isSucc = false → j ≤ e.2.1 ∧ (e.2.1 = j → b ≤ e.1) := by
  have := specLoop_try (cfgFor σ parent p kind) htry _ 0 _ (by simp [SpecCfg.n]) (allSucc_init' _) (.failed v) h
  obtain ⟨h1, b, j, _, h3, h4, _, _⟩ := this
  exact ⟨h1, b, j, h3, h4⟩

/-- The macro's value: `Ok(tuple of payloads)` on success, the failing value itself on failure
    (no handler; with a handler see C13). -/
theorem try_value (σ : World) (parent : Option String) (p : Input) (kind : Kind) (htry : kind.isTry = true) (f : Fin) :
    specHandle (cfgFor σ parent p kind) none f =
      match f with
      | .vals ps => M.ret (.succ (mkTuple ps))
      | .failed v => M.ret v := by
  cases f <;> simp [specHandle, cfgFor, htry]

/-- "exactly when": if every chain that ran succeeded and the run did not panic, the result is the success tuple. -/
theorem try_success_iff (σ : World) (parent : Option String) (p : Input) (kind : Kind)
    (htry : kind.isTry = true) (f : Fin) (h : (loopOf σ parent p kind).res = .ok f) :
    (∃ ps, f = .vals ps) ↔ ∀ e ∈ chainEnds (loopOf σ parent p kind).trace, e.2.2.isSucc = true := by
  constructor
  · rintro ⟨ps, rfl⟩
    exact try_success_all_chains_succeeded σ parent p kind htry ps h
  · intro hall
    cases f with
    | vals ps => exact ⟨ps, rfl⟩
    | failed v =>
      obtain ⟨hv, b, j, hmem, _⟩ := try_failure_is_first_failure σ parent p kind htry v h
      have := hall _ hmem
      simp only at this
      rw [hv] at this; cases this

/-- The same for the code the macro expands to (no handler): its events and result are those of the loop. -/
theorem generated_try_result (σ : World) (parent : Option String) (p : Input) (kind : Kind) (code : Code)
    (hs : Supported p kind) (hgen : gen p kind = .ok code) (htry : kind.isTry = true) (hh : p.handler = none)
    (r : Value) (hr : (evalCode σ parent code).res = .ok r) :
    (∃ ps, r = .succ (mkTuple ps) ∧ ∀ e ∈ chainEnds (evalCode σ parent code).trace, e.2.2.isSucc = true) ∨
    (r.isSucc = false ∧ ∃ b j, (b, j, r) ∈ chainEnds (evalCode σ parent code).trace ∧
      ∀ e ∈ chainEnds (evalCode σ parent code).trace, e.2.2.isSucc = false → j ≤ e.2.1 ∧ (e.2.1 = j → b ≤ e.1)) := by
  rw [sync_refines σ parent p kind code hs hgen] at hr ⊢
  obtain ⟨ht, hres⟩ := run_trace_no_handler σ parent p kind hh
  rw [ht]
  rw [hres] at hr
  obtain ⟨f, hf, hr⟩ := M.andThen_res_ok hr
  rw [try_value σ parent p kind htry f] at hr
  cases f with
  | vals ps =>
    simp [M.ret] at hr; subst hr
    exact Or.inl ⟨ps, rfl, try_success_all_chains_succeeded σ parent p kind htry ps hf⟩
  | failed v =>
    simp [M.ret] at hr; subst hr
    exact Or.inr (try_failure_is_first_failure σ parent p kind htry v hf)

/-- The same from the tokens the caller wrote: parser, generator and evaluation composed (any behaviour of syn). -/
theorem accepted_try_result (o : Oracle) (toks : Toks) (σ : World) (parent : Option String) (p : Input) (kind : Kind)
    (code : Code) (hparse : parseMacroInput o toks = .ok p) (hd : PlainInvocation p kind) (hgen : gen p kind = .ok code)
    (htry : kind.isTry = true) (hh : p.handler = none) (r : Value) (hr : (evalCode σ parent code).res = .ok r) :
    (∃ ps, r = .succ (mkTuple ps) ∧ ∀ e ∈ chainEnds (evalCode σ parent code).trace, e.2.2.isSucc = true) ∨
    (r.isSucc = false ∧ ∃ b j, (b, j, r) ∈ chainEnds (evalCode σ parent code).trace ∧
      ∀ e ∈ chainEnds (evalCode σ parent code).trace, e.2.2.isSucc = false → j ≤ e.2.1 ∧ (e.2.1 = j → b ≤ e.1)) :=
  generated_try_result σ parent p kind code (accepted_supported o toks p kind hparse hd) hgen htry hh r hr

/-- Non-vacuity and regression for the defect fixed in /repo 704b5ce: depths (1, 3, 3), branch 1 fails in step 1. -/
def d1World : World where
  capture _ _ _ _ _ := .ok (.atom 0)
  chain b k prev _ _ := ⟨[], .ok (if b = 1 ∧ k = 1 then .fail (.atom 7) else .succ (.atom (b + 10 * k)))⟩
  handlerDef := .ok ()
  handlerCall _ := .ok (.atom 0)
  joiner _ vs := .ok (mkTuple vs)

def d1Prog : Input :=
  let ini : Member := ⟨.initial, false, .none, [⟨.expr, []⟩]⟩
  let stp : Member := ⟨.map, true, .none, [⟨.expr, []⟩]⟩
  { branches := [⟨none, [ini]⟩, ⟨none, [ini, stp, stp]⟩, ⟨none, [ini, stp, stp]⟩] }

example : (match gen d1Prog ⟨false, true, false⟩ with
    | .ok code => (evalCode d1World none code).res
    | .error _ => .stuck) = .ok (.fail (.atom 7)) := by decide +kernel

example : (specRun d1World none d1Prog ⟨false, true, false⟩).res = .ok (.fail (.atom 7)) := by decide +kernel

end JoinModel.Props.C05
