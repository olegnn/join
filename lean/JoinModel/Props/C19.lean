/-
  C19 — no hidden costs: no allocation, no Clone, no Send/'static unless spawning.
  Syntactic statements about the code every non-spawning configuration produces (∀ programs).  Whether rustc
  accepts a given borrowing program and what the allocator does are type-system / run-time facts: K2 compiles and
  runs move-only, `Rc`, `&` and `&mut` programs and counts allocations around sequential evaluations.
-/
import JoinModel.Lemmas.PrintCount
import JoinModel.Lemmas.ParseInit
import JoinModel.Props.C17
import JoinModel.Lemmas.GenFacts
import JoinModel.Print
namespace JoinModel.Props.C19
open JoinModel

/-- Without `spawn` no operand is wrapped into a thread spawn or a tokio spawn, there are no thread builders and no
    handle joins: a step is lets, a tuple (or the joiner application) and the chains themselves. -/
theorem no_spawn_constructs_unless_spawning (c : Ctx) (k : Nat) (s : StepCode) (h : genStep c k = .ok s)
    (hns : c.kind.isSpawn = false) :
    s.tbs = [] ∧ s.spawnJoin = none ∧ ∀ e ∈ s.elems, e.wrap = .plain := by
  obtain ⟨-, -, -, ht, hj⟩ := genStep_inv h
  exact ⟨by simp [ht, hns], by simp [hj, hns], fun e he => by simp [(genStep_elem h e he).2, Ctx.wrapOf, hns]⟩

/-- Operands are `move ||` closures only when `lazy_branches` is on (default: thread-spawning macros only) — so the
    sequential macros do not move their environment and may borrow from the caller's stack. -/
theorem no_move_closures_unless_lazy (c : Ctx) (k : Nat) (s : StepCode) (h : genStep c k = .ok s) (hl : c.lazy = false) :
    ∀ e ∈ s.elems, e.lazy = false := fun e he => by simp [(genStep_elem h e he).1, hl]

/-- default laziness is off for every macro that does not spawn threads -/
theorem lazy_default_off (p : Input) (kind : Kind) (c : Ctx) (h : mkCtx p kind = .ok c) (hl : p.lazy = none)
    (hk : kind.isSpawn = false ∨ kind.isAsync = true) : c.lazy = false := by
  rcases hk with hk | hk <;> simp [(mkCtx_inv h).lazy, hl, hk]

/-- The sequential expansion is one block: the inspect helper (bound `impl Fn(&I)` only), the thread-builder helper
    only when spawning, the handler binding, the steps, the handler call.  No `Box::pin`, no `async` frame. -/
theorem sync_frame (c : Code) (ha : c.kind.isAsync = false) :
    printCode c = [brace (Templates.fnInspect ++ (if c.kind.isSpawn then Templates.fnTb else []) ++
      ((match c.handlerDef with
        | some h => [kw "let", Var.h.tok, pu '='] ++ h ++ [pu ';']
        | none => []) ++ [kw "let", Var.rs.tok, pu '=', brace (printSteps c.steps), pu ';'] ++
      printHandle false c.handle))] := by
  simp only [printCode, ha, Bool.false_eq_true, if_false]
  cases c.handlerDef <;> rfl

/-- `Send + 'static` bounds are written only in the `__spawn_tokio` helper, which is emitted only by the
    task-spawning macros; `Box::pin` only by the async macros. -/
theorem bounds_only_when_spawning (c : Code) (ha : c.kind.isAsync = true) :
    printCode c = [kw "Box"] ++ pathSep ++ [kw "pin", paren [kw "async", kw "move",
      brace (useFutures (c.fcp.getD []) ++ (if c.kind.isSpawn then fnSpawnTokio (c.fcp.getD []) else []) ++
        ((match c.handlerDef with
          | some h => [kw "let", Var.h.tok, pu '='] ++ h ++ [pu ';']
          | none => []) ++ [kw "let", Var.rs.tok, pu '=', brace (printSteps c.steps), pu ';'] ++
        printHandle true c.handle))]] := by
  simp only [printCode, ha, if_true]
  cases c.handlerDef <;> rfl

/-- Non-vacuity: a three-branch program with depths (1, 3, 2).  For `join!` its context is not lazy and step 1 generates
    with two elements (so the conclusions talk about something); for `join_spawn!` the same program does get thread
    builders — the hypothesis `isSpawn = false` is what removes them. -/
def costProg : Input :=
  let ini : Member := ⟨.initial, false, .none, [⟨.expr, []⟩]⟩
  let stp : Member := ⟨.map, true, .none, [⟨.expr, []⟩]⟩
  { branches := [⟨none, [ini]⟩, ⟨none, [ini, stp, stp]⟩, ⟨none, [ini, stp]⟩] }

example : (match mkCtx costProg ⟨false, false, false⟩ with
    | .ok c => (c.lazy == false) && (match genStep c 1 with
        | .ok s => s.elems.length == 2 && s.tbs.isEmpty && s.spawnJoin.isNone
        | .error _ => false)
    | .error _ => false) = true := by decide +kernel

example : (match mkCtx costProg ⟨false, false, true⟩ with
    | .ok c => (match genStep c 1 with
        | .ok s => s.elems.length == 2 && s.tbs.length == 2 && s.spawnJoin.isSome
        | .error _ => false)
    | .error _ => false) = true := by decide +kernel

/-! ### the expansion adds no `clone`, `Arc`, `Rc`, `Mutex`, `boxed` of its own -/

/-- a word that is neither a template / printer word nor an internal name (internal names start with `__`, Props/C17) -/
theorem pmarker_of (w : String) (hu : UserIdent w) (h0 : ¬ ∃ rest, w.toList = '_' :: '_' :: rest) (h1 : "inspect" ≠ w)
    (h2 : "async" ≠ w) (h3 : "move" ≠ w) (h4 : w ∉ printerWords) (h5 : cntToks w Templates.fnInspect = 0)
    (h6 : cntToks w Templates.fnTb = 0) : PMarker w :=
  { user := hu, notInternal := C17.render_ne_of_no_underscores h0, notInspect := h1, notAsync := h2, notMove := h3,
    words := h4, inspectFn := h5, tbFn := h6 }

/-- `pmarker_of` for a concrete word: everything but the `__` prefix is one closed conjunction, left to evaluation -/
theorem pmarker_of_eval (w : String) (h0 : ¬ ∃ rest, w.toList = '_' :: '_' :: rest)
    (h : UserIdent w ∧ "inspect" ≠ w ∧ "async" ≠ w ∧ "move" ≠ w ∧ w ∉ printerWords ∧ cntToks w Templates.fnInspect = 0 ∧
      cntToks w Templates.fnTb = 0) : PMarker w :=
  pmarker_of w h.1 h0 h.2.1 h.2.2.1 h.2.2.2.1 h.2.2.2.2.1 h.2.2.2.2.2.1 h.2.2.2.2.2.2

theorem pm_clone : PMarker "clone" :=
  pmarker_of_eval _ (by simp) (by decide +kernel)
theorem pm_arc : PMarker "Arc" :=
  pmarker_of_eval _ (by simp) (by decide +kernel)
theorem pm_rc : PMarker "Rc" :=
  pmarker_of_eval _ (by simp) (by decide +kernel)
theorem pm_mutex : PMarker "Mutex" :=
  pmarker_of_eval _ (by simp) (by decide +kernel)
theorem pm_boxed : PMarker "boxed" :=
  pmarker_of_eval _ (by simp) (by decide +kernel)

/-- **Every `clone` / `Arc` / `Rc` / `Mutex` / `boxed` in an expansion was written by the caller**: for every program the
    generator accepts, the number of occurrences of each of these words in the emitted token stream equals their number
    in the operands and the handler the caller wrote (the `let` patterns, the joiner and the futures path not mentioning
    the word).  The macro never clones, reference-counts, locks or boxes a value on its own account (the one `Box::pin`
    of the async macros is the documented outer frame). -/
theorem no_hidden_cost_words (w : String) (hw : w ∈ ["clone", "Arc", "Rc", "Mutex", "boxed"]) (p : Input) (kind : Kind)
    (code : Code) (h : gen p kind = .ok code) (hinit : InitialOnlyFirst p) (ho : OtherTokensFree w p) :
    cntToks w (printCode code) = cntProgram w p + cntToks w ((p.handler.map (·.2)).getD []) := by
  have hm : PMarker w := by
    simp only [List.mem_cons, List.mem_nil_iff, or_false] at hw
    rcases hw with rfl | rfl | rfl | rfl | rfl
    · exact pm_clone
    · exact pm_arc
    · exact pm_rc
    · exact pm_mutex
    · exact pm_boxed
  exact expansion_count hm p kind code h hinit ho

/-- …for whatever the parser accepts -/
theorem accepted_no_hidden_clone (o : Oracle) (toks : Toks) (p : Input) (kind : Kind) (code : Code)
    (hparse : parseMacroInput o toks = .ok p) (h : gen p kind = .ok code) (ho : OtherTokensFree "clone" p) :
    cntToks "clone" (printCode code) = cntProgram "clone" p + cntToks "clone" ((p.handler.map (·.2)).getD []) :=
  no_hidden_cost_words "clone" (by simp) p kind code h (parse_initial_only_first o toks p hparse) ho

end JoinModel.Props.C19
