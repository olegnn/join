/-
  C03 — step barrier: `~` actions wait for every branch of the previous step.
  Part 1: program order on the calling thread and data flow, for the sequential and thread-spawning macros.
  Part 2 (`barrier_every_schedule`, over `Lin`): every interleaving of the branch threads of a whole run; the barrier of a
  single step is in Props/C08.lean.  Part 3 (last section): the async macros, every order in which pending futures become
  ready.
-/
import JoinModel.Props.Common
import JoinModel.Lemmas.LinLoop
import JoinModel.AsyncSpec
namespace JoinModel.Props.C03
open JoinModel JoinModel.Props

/-- On the calling thread the events of a run are sorted by (step, captures before chains): nothing that belongs
    to step k+1 — operand, callback, block capture, fork — comes before anything of step k.  A forked branch
    thread is one event here; its body is ordered by `Lin` (C08). -/
theorem steps_in_program_order (σ : World) (parent : Option String) (p : Input) (kind : Kind) :
    (keysOf (loopOf σ parent p kind).trace).Pairwise (· ≤ ·) :=
  specLoop_sorted _ _ _ _

theorem events_have_steps (σ : World) (parent : Option String) (p : Input) (kind : Kind) :
    ∀ e ∈ (loopOf σ parent p kind).trace, ∃ s, e.step = some s ∧ s ≤ (cfgFor σ parent p kind).maxDepth - 1 := by
  intro e he
  obtain ⟨s, h1, _, h3⟩ := specLoop_step_ge _ _ _ _ e he
  exact ⟨s, h1, by omega⟩

/-- Step k+1 of a branch continues from that branch's own step-k value: chain (b, k) is handed the current value of
    branch b … -/
theorem chain_input_is_own_value (sc : SpecCfg) (vals : List (Option Value)) (b k : Nat)
    (h : usesPrev (sc.acts b k) = true) : specPrev sc vals b k = (vals[b]?).join := by
  simp [specPrev, h]

/-- … and the current value of branch b after a step in which it was active is what its own chain returned
    (`updVals`, see also C04). -/
theorem own_value_after_step (vals : List (Option Value)) (act : List Nat) (news : List Value)
    (hl : act.length = news.length) (hnd : act.Nodup) (pos : Nat) (hpos : pos < act.length)
    (hb : act[pos] < vals.length) :
    ((updVals vals act news)[act[pos]]?).join = some (news[pos]'(hl ▸ hpos)) := by
  rw [updVals_mem vals act news hl hnd pos hpos hb]; rfl

/-- The same order holds for the code the macro expands to. -/
theorem generated_steps_in_program_order (σ : World) (parent : Option String) (p : Input) (kind : Kind) (code : Code)
    (hs : Supported p kind) (hgen : gen p kind = .ok code) (hh : p.handler = none) :
    (keysOf (evalCode σ parent code).trace).Pairwise (· ≤ ·) := by
  rw [sync_refines σ parent p kind code hs hgen, (run_trace_no_handler σ parent p kind hh).1]
  exact steps_in_program_order σ parent p kind

/-- …and for the whole pipeline, from the tokens the caller wrote: whatever the parser accepts (any behaviour of syn). -/
theorem accepted_steps_in_program_order (o : Oracle) (toks : Toks) (σ : World) (parent : Option String) (p : Input)
    (kind : Kind) (code : Code) (hparse : parseMacroInput o toks = .ok p) (hd : PlainInvocation p kind)
    (hgen : gen p kind = .ok code) (hh : p.handler = none) :
    (keysOf (evalCode σ parent code).trace).Pairwise (· ≤ ·) :=
  generated_steps_in_program_order σ parent p kind code (accepted_supported o toks p kind hparse hd) hgen hh

/-- **The step barrier under every schedule, for the whole run.**  In any global order `t` of the events of the step loop
    that respects what threads guarantee and nothing else (`Lin`, Lemmas/Lin.lean), the step numbers never decrease: no
    operand, callback or block capture of step k+1 is evaluated before every chain of step k has finished — for
    thread-spawning macros under *all* interleavings of the sibling threads (trivially for the sequential ones), also when
    something panics. -/
theorem barrier_every_schedule (σ : World) (parent : Option String) (p : Input) (kind : Kind) (t : List TEv)
    (h : Lin (loopOf σ parent p kind).trace [] t) : (tsteps t).Pairwise (· ≤ ·) :=
  (loop_every_schedule (cfgFor σ parent p kind) (active_nodup _) _ 0 _ t h).1

/-- the hypothesis is satisfiable: a two-thread step, the thread forked second running first -/
example : Lin [.fork 0 0 "a" [.chainStart 0 0], .fork 1 0 "b" [.chainStart 1 0], .join 0 0, .join 1 0] []
    [⟨some (1, 0), .chainStart 1 0⟩, ⟨some (0, 0), .chainStart 0 0⟩] := by
  apply Lin.fork; apply Lin.fork
  exact Lin.thr _ [((0, 0), [.chainStart 0 0])] [] (1, 0) _ [] _
    (Lin.thr _ [] [((1, 0), [])] (0, 0) _ [] _ (Lin.join 0 0 _ [] [((1, 0), [])] _ (Lin.join 1 0 _ [] [] _ (Lin.done _))))

/-! ### the async macros: every schedule of gate openings -/

theorem filterMap_step_eq (l : List MEv) (h : ∀ e ∈ l, e.step.isSome = true) : l.filterMap MEv.step = l.map stepLevel := by
  induction l with
  | nil => rfl
  | cons e l ih =>
    have he := h e List.mem_cons_self
    cases hs : e.step with
    | none => rw [hs] at he; cases he
    | some k => simp [hs, stepLevel, ih (fun x hx => h x (List.mem_cons_of_mem _ hx))]

/-- **The step barrier for the async macros, under every schedule.**  The `async move` block of any async macro
    (`planLoop`: from any step `k` and state `vals`, with arbitrary pending points `pend` inside the chains), polled with
    any sequence `gs` of sets of open gates — any order in which the pending futures become ready, any batches, spurious
    polls, finished or not: along everything it emits, the step numbers never decrease, also when chains fail or panic. -/
theorem async_barrier_every_schedule (c : SpecCfg) (pend : Pend) (rem k : Nat) (vals : List (Option Value)) (gs : List Gates) :
    (((planLoop c pend rem k vals).1 ++ ((planLoop c pend rem k vals).2.run gs).1).filterMap MEv.step).Pairwise (· ≤ ·) := by
  obtain ⟨⟨m, hr⟩, _, hall⟩ := planLoop_run_rising c pend rem k vals gs
  rw [filterMap_step_eq _ hall]
  exact hr.2.1

end JoinModel.Props.C03
