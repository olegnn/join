/-
  C02 — nested combinators (`>>>` / `<<<`) desugar to nested closures.
-/
import JoinModel.Lemmas.Nest
import JoinModel.SpecTables
namespace JoinModel.Props.C02
open JoinModel

/-- The operators that may be followed by `>>>` are exactly the ten documented ones
    (`Combinator::can_be_wrapper`, table T4 regenerated from the running code). -/
theorem wrapper_set_documented : ∀ c : Comb, Tables.canBeWrapper.contains c = SpecTables.wrappers.contains c := by
  intro c; cases c <;> decide +kernel

/-- Each wrapper operator builds *its own* constructor for `op >>>` (`to_wrapper_action_expr`, T7): `?@ >>>` is
    `find`, not `find_map`, and so on; the placeholder operand is `|__v| __v`. -/
theorem wrapper_ctor_documented :
    (∀ c ∈ SpecTables.wrappers, Tables.wrapperCtor.lookup c = some c) ∧
    Tables.wrapperCtor.length = 10 ∧
    Tables.wrapperPlaceholder = [.punct '|' false, .ident "__v", .punct '|' false, .ident "__v"] :=
  ⟨by decide +kernel, by decide +kernel, rfl⟩

/-- The same as observed through the real parser on `x OP >>> <<<` for each of the ten operators. -/
theorem wrapper_ctor_observed :
    Tables.wrapperCtorBySrc.map Prod.snd =
      [.map, .andThen, .filter, .inspect, .filterMap, .find, .findMap, .partition, .orElse, .mapErr] := by decide

/-- The closure handed to a wrapper is `|__v| inner…` and it replaces the wrapper's single operand. -/
theorem wrapper_closure (a : Bool) (outer inner : Toks) (w : Member) (h : w.ops.length = 1) :
    applyWrapper a outer w inner = applyCtor a outer w.ctor [[pu '|', Var.v.tok, pu '|'] ++ inner] := by
  simp [applyWrapper, h, closureToks]

/-- **The stack machine computes the documented nesting.**  The chain expression the generator emits for a step is the
    recursive-descent reading `X >>> inner… <<< rest ↦ .x(|__v| __v inner…) rest` (`nestGo`): wrappers still open when the
    actions run out close implicitly there, and what follows a `<<<` applies to the outer value again.  The only way to
    fail is a `<<<` at nesting level 0, which the chain builder rejects (C15). -/
theorem step_expr_nested (a : Bool) (b : Nat) (prev : Var) (m : Member) (ms : List Member) :
    genBranchStep a b prev (m :: ms) =
      match nestGo a b ((m :: ms).length + 1) (wrapIntoBlock a [prev.tok]) (m :: ms) 0 [] with
      | .error er => .error er
      | .ok r => if r.closed then .error .stepExprsLenZero else .ok (some (r.defs, r.toks)) :=
  genBranchStep_eq_nestGo a b prev m ms

/-- Implicit closing: a level whose actions run out is not "closed", and has consumed everything. -/
theorem implicit_close_consumes_all (a : Bool) (b fuel : Nat) (cur : Toks) (ms : List Member) (e : Nat) (defs : List CapDef)
    (r : NestOut) (h : nestGo a b fuel cur ms e defs = .ok r) (hc : r.closed = false) : r.rest = [] :=
  nestGo_open_rest h hc

/-- After `<<<` the following operators apply to the outer value: the descent returns to the enclosing level with
    the actions that follow the `<<<`. -/
theorem after_unwrap_outer (a : Bool) (b fuel : Nat) (cur : Toks) (u : Member) (rest : List Member) (e : Nat)
    (defs : List CapDef) (hu : u.mv = .unwrap) :
    nestGo a b (fuel + 1) cur (u :: rest) e defs = .ok ⟨cur, rest, e + 1, defs, true⟩ := by
  simp [nestGo, hu]

/-! Non-vacuity: `init |> >>> ..b() <<< => c` and `init => >>> |> >>> ..d()` (implicit close of two levels). -/

private def mem (c : Comb) (mv : Move) (t : String) : Member := ⟨c, false, mv, [⟨.expr, [.ident t]⟩]⟩

private def shown (r : Except ChainErr (Option (List CapDef × Toks))) : String :=
  match r with
  | .ok (some dt) => showToks dt.2
  | _ => "<none>"

example : shown (genBranchStep false 0 (.r 0) [mem .initial .none "init", mem .map .wrap "ph", mem .dot .none "b",
      ⟨.unwrap, false, .unwrap, []⟩, mem .andThen .none "c"]) =
    "( i:init ) p:. i:map ( p:| i:__v p:| i:__v p:. i:b ) p:. i:and_then ( i:c )" := by decide +kernel

example : shown (genBranchStep false 0 (.r 0) [mem .initial .none "init", mem .andThen .wrap "ph", mem .map .wrap "ph",
      mem .dot .none "d"]) =
    "( i:init ) p:. i:and_then ( p:| i:__v p:| i:__v p:. i:map ( p:| i:__v p:| i:__v p:. i:d ) )" := by decide +kernel

end JoinModel.Props.C02
