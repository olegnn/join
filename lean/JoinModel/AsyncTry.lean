/-
  The async try macros (`try_join_async!`, `try_join_async_spawn!`, aliases): reference semantics under the canonical
  schedule and the refinement theorem.  They differ from the other try macros in the step that fails: `try_join!`
  returns as soon as an operand has failed, so the chains behind the first failing branch of that step do not run.
-/
import JoinModel.Lemmas.TryFacts
import JoinModel.Refinement
namespace JoinModel

/-- chains of a step in operand order up to the first one that fails: the payloads of all of them, or the failure -/
def specChainsTry (c : SpecCfg) (k : Nat) (vals : List (Option Value)) (vis : List (String × Value)) :
    List (Nat × List Value) → M (Except Value (List Value))
  | [] => M.ret (.ok [])
  | (b, caps) :: rest =>
    let o := c.σ.chain b k (specPrev c vals b k) caps vis
    (⟨(chainEvents b k o).map .ev, o.res.toRes⟩ : M Value).andThen fun v =>
    match v with
    | .succ p => (specChainsTry c k vals vis rest).andThen fun r => M.ret (r.map (p :: ·))
    | f => M.ret (.error f)

def tryOut : Except Value (List Value) → Value
  | .ok ps => .succ (mkTuple ps)
  | .error f => f

/-- reference loop of an async try macro -/
def specLoopAT (c : SpecCfg) : (rem : Nat) → (k : Nat) → List (Option Value) → M Fin
  | rem, k, vals =>
    let act := c.active k
    let vis := visibleSpec c.names vals
    (specCapsAll c k vis act).andThen fun caps =>
    (specChainsTry c k vals vis (act.zip caps)).andThen fun r =>
    match r with
    | .error v => M.ret (.failed v)
    | .ok ps =>
      let vals' := updVals vals act (ps.map .succ)
      match rem with
      | 0 =>
        match allSome vals' with
        | none => M.stuck
        | some finals => M.ret (.vals (finals.filterMap payload?))
      | rem' + 1 => specLoopAT c rem' (k + 1) vals'

/-- Reference meaning of an async try macro invocation under the canonical schedule. -/
def specRunAT (σ : World) (parent : Option String) (p : Input) (kind : Kind) : M Value :=
  let c : SpecCfg := ⟨σ, kind, p.branches.map (fun b => b.pat.map (·.ident)), parent,
                      p.branches.map fun b => splitSteps b.members⟩
  (match p.handler with
    | some _ => (M.tell [.ev .handlerDef]).andThen fun _ => M.lift σ.handlerDef.toRes
    | none => M.ret ()).andThen fun _ =>
  (specLoopAT c (c.maxDepth - 1) 0 (List.replicate c.n none)).andThen fun f =>
  specHandle c (p.handler.map Prod.fst) f

/-! ### one step -/

def specTailAT (c : SpecCfg) (rem k : Nat) (vals : List (Option Value)) : Except Value (List Value) → M Fin
  | .error v => M.ret (.failed v)
  | .ok ps =>
    match rem with
    | 0 =>
      match allSome (updVals vals (c.active k) (ps.map .succ)) with
      | none => M.stuck
      | some finals => M.ret (.vals (finals.filterMap payload?))
    | rem' + 1 => specLoopAT c rem' (k + 1) (updVals vals (c.active k) (ps.map .succ))

theorem specLoopAT_eq (c : SpecCfg) (rem k : Nat) (vals : List (Option Value)) :
    specLoopAT c rem k vals =
      (specCapsAll c k (visibleSpec c.names vals) (c.active k)).andThen fun caps =>
      (specChainsTry c k vals (visibleSpec c.names vals) ((c.active k).zip caps)).andThen (specTailAT c rem k vals) := by
  rw [specLoopAT]
  cases rem <;> rfl

theorem specChainsTry_eq_seqTry (c : SpecCfg) (k : Nat) (vals : List (Option Value)) (vis : List (String × Value))
    (bcs : List (Nat × List Value)) : specChainsTry c k vals vis bcs = M.seqTry (bcs.map (chainM c k vals vis)) := by
  induction bcs with
  | nil => rfl
  | cons bc bcs ih =>
    simp only [specChainsTry, List.map_cons, M.seqTry, chainM, ih]
    congr 1

/-- a single awaited operand is `try_join!` of one operand -/
theorem seqTry_single (m : M Value) : ((M.seq [m]).andThen fun vs => M.ret (mkTuple vs)) = (M.seqTry [m]).andThen fun r => M.ret (tryOut r) := by
  simp only [M.seq, M.seqTry, M.andThen_assoc, M.ret_andThen]
  congr 1
  funext v
  cases v <;> simp [M.ret, M.andThen, mkTuple, tryOut, Except.map]

theorem evalJoinForm_try (cfg : EvalCfg) (k : Nat) (env : Env) (j : Toks) (elems : List Elem) :
    evalJoinForm cfg k env (.futJoin j true) elems = (evalElemsTry cfg k env elems).andThen fun r => M.ret (tryOut r) := by
  simp only [evalJoinForm]
  congr 1

theorem evalStep_eq_AT {c : Ctx} {names : List (Option String)} (ok : CtxOK c names) (σ : World)
    (parent : Option String) (k : Nat) (env : Env) (vals : List (Option Value)) (hinv : Inv c names k env vals)
    (s : StepCode) (hs : genStep c k = .ok s)
    (ha : c.kind.isAsync = true) (ht : c.kind.isTry = true) (hact : 1 ≤ (c.activeIdx k).length)
    {β : Type} (K : Env × Value → M β) :
    (evalStep (cfgOf σ parent names) env s).andThen K =
      (specCapsAll (specCfgOf σ parent names c) k (visibleSpec names vals) (c.activeIdx k)).andThen fun capss =>
      (specChainsTry (specCfgOf σ parent names c) k vals (visibleSpec names vals) ((c.activeIdx k).zip capss)).andThen fun r =>
      K (stepJunk c (specCfgOf σ parent names c) k capss ++ env, tryOut r) := by
  obtain ⟨-, -, helems, hform, -, hsj⟩ := genStep_shape ok σ parent k s hs
  have hnthr : (c.kind.threads && decide (c.activeCount k ≥ 2)) = false := by simp [Kind.threads, ha]
  rw [evalStep_caps ok σ parent k env vals hinv s hs, M.andThen_assoc]
  apply M.andThen_congr
  intro capss hcapss
  rw [M.andThen_assoc]
  have hel := stepElems_eq ok σ parent k env vals hinv s hs capss hcapss
  rw [hnthr, if_neg (by simp)] at hel
  -- right to left: the reference chains become the operands, so that both sides run one and the same list
  rw [hsj, hnthr, if_neg (by simp), specChainsTry_eq_seqTry, ← hel]
  rw [ht] at hform
  rcases hform.2 ha with ⟨hone, hf⟩ | ⟨j, hf⟩
  · -- one active branch, awaited in place
    rw [activeCount_eq ok k] at hone
    have hlen : s.elems.length = 1 := by
      have := congrArg List.length helems
      simp only [List.length_map] at this
      omega
    rw [hf, evalJoinForm_simple _ _ _ _ _ (Or.inr (Or.inl rfl)), evalElems_eq_seq]
    obtain ⟨e, he⟩ := List.length_eq_one_iff.mp hlen
    rw [he, List.map_cons, List.map_nil, seqTry_single]
    simp only [M.andThen_assoc, M.ret_andThen]
  · rw [hf, evalJoinForm_try, evalElemsTry_eq_seqTry]
    simp only [M.andThen_assoc, M.ret_andThen]

/-! ### facts about the reference chains -/

theorem specChainsTry_ok (c : SpecCfg) (k : Nat) (vals : List (Option Value)) (vis : List (String × Value))
    (bcs : List (Nat × List Value)) (ps : List Value) (h : (specChainsTry c k vals vis bcs).res = .ok (.ok ps)) :
    ps.length = bcs.length := by
  rw [specChainsTry_eq_seqTry] at h
  simpa using M.seqTry_ok h

theorem specChainsTry_error_last (c : SpecCfg) (k : Nat) (vals : List (Option Value)) (vis : List (String × Value))
    (bcs : List (Nat × List Value)) (f : Value) (h : (specChainsTry c k vals vis bcs).res = .ok (.error f)) :
    f.isSucc = false ∧
    ∃ pre b, (specChainsTry c k vals vis bcs).trace = pre ++ [.ev (.chainEnd b k f)] ∧ b ∈ bcs.map Prod.fst := by
  rw [specChainsTry_eq_seqTry] at h ⊢
  obtain ⟨hf, pre, m, hm, hres, htr⟩ := M.seqTry_error h
  obtain ⟨bc, hbc, rfl⟩ := List.mem_map.mp hm
  refine ⟨hf, ?_⟩
  -- the chain of `bc` returned `f`: its events end with `chainEnd bc.1 k f`
  simp only [chainM] at hres htr
  cases ho : (c.σ.chain bc.1 k (specPrev c vals bc.1 k) bc.2 vis).res with
  | panic n => rw [ho] at hres; cases hres
  | ok w =>
    rw [ho] at hres
    cases hres
    refine ⟨pre ++ ([Ev.chainStart bc.1 k] ++ (c.σ.chain bc.1 k (specPrev c vals bc.1 k) bc.2 vis).cbs.map (Ev.cb bc.1 k)).map
      MEv.ev, bc.1, ?_, List.mem_map_of_mem hbc⟩
    rw [htr, chainEvents, ho]
    simp

/-! ### facts about the generated step -/

theorem projs_mkTuple {c : Ctx} (k : Nat) (ps : List Value) (hn : ps.length = (c.activeIdx k).length)
    (hcount : c.activeCount k = (c.activeIdx k).length) (hact : 1 ≤ (c.activeIdx k).length) :
    (idxProjs c k).mapM (fun pr => projVal pr (mkTuple ps)) = some ps := by
  by_cases hm : c.activeCount k > 1
  · -- several operands: `__sr.i`
    have h2 : 2 ≤ ps.length := by omega
    have hmk : mkTuple ps = .tup (spine ps) := mkTuple_of_two_le ps h2
    rw [idxProjs_multi hm, ← hn, List.mapM_map, hmk]
    have := mapM_getElem [] ps
    simp only [List.length_nil, List.nil_append, ← List.range_eq_range'] at this
    simpa [projVal, Function.comp_def] using this
  · have h1 : ps.length = 1 := by omega
    obtain ⟨p0, rfl⟩ := List.length_eq_one_iff.mp h1
    have hl : (c.activeIdx k).length = 1 := by simpa using hn.symm
    simp [idxProjs, hl, hm, projVal, mkTuple]

theorem active_nonempty {c : Ctx} {names : List (Option String)} (ok : CtxOK c names)
    (hmax : c.maxSteps = (c.chains.map (·.length)).foldl max 0) (k : Nat) (hk : k < c.maxSteps) :
    1 ≤ (c.activeIdx k).length := by
  rw [← activeCount_eq ok k]
  unfold Ctx.activeCount
  rw [ok.depthsEq]
  rw [hmax] at hk
  refine Nat.pos_of_ne_zero fun h0 => Nat.not_le_of_lt hk (foldl_max_le.mpr ⟨Nat.zero_le _, fun d hd => ?_⟩)
  exact Nat.le_of_not_lt fun hkd => List.ne_nil_of_mem (List.mem_filter.mpr ⟨hd, by simpa using hkd⟩)
    (List.length_eq_zero_iff.mp h0)

/-! ### after the last step -/

/-- The invariant after a step whose chains all succeeded speaks of an environment that binds `Ok(payload)`, as the
    reference state does; the generated `Ok(__sr) => { let (pats) = __sr; … }` binds the bare payloads `ps` in the same
    places.  So every branch has a payload `pay i`, and its variable holds `pay i` if the branch ran in step `k`, else
    still `Ok(pay i)`. -/
theorem payloads_of_inv {c : Ctx} {names : List (Option String)} (ok : CtxOK c names) {k : Nat} {rest : Env}
    {vals : List (Option Value)} {ps : List Value} (hps : ps.length = (c.activeIdx k).length)
    (hinv : Inv c names (k + 1) (bindPats (c.activePats k) (ps.map .succ) rest) vals) (hsucc : AllSucc vals) :
    ∃ finals pay, allSome vals = some finals ∧ finals.filterMap payload? = (List.range c.n).map pay ∧
      ∀ i, i < c.n → (bindPats (c.activePats k) ps rest).lookup (c.varOf i) =
        some (if c.isActive k i then pay i else .succ (pay i)) := by
  obtain ⟨v, hall, hlook⟩ := finals_of_inv hinv (Nat.succ_pos k)
  have hvs : ∀ i ∈ List.range c.n, (v i).isSucc = true := fun i hi =>
    hsucc i (v i) (by rw [allSome_eq_some.mp hall]; simp [List.mem_range.mp hi])
  refine ⟨_, _, hall, filterMap_payload_map _ _ hvs, fun i hi => ?_⟩
  obtain ⟨q, hq⟩ := Value.eq_succ_of_isSucc (hvs i (List.mem_range.mpr hi))
  have h' := hlook i hi
  rw [hq] at h' ⊢
  by_cases hm : i ∈ c.activeIdx k
  · have hA := (List.mem_filter.mp hm).2
    obtain ⟨pos, hpos, rfl⟩ := List.getElem_of_mem hm
    rw [lookup_bindPats_active ok k _ (by simpa using hps) _ pos hpos, List.getElem_map] at h'
    rw [lookup_bindPats_active ok k ps hps _ pos hpos, if_pos hA, Value.succ.inj (Option.some.inj h')]
    rfl
  · rw [lookup_bindPats_inactive ok k _ _ i hi hm] at h' ⊢
    rw [h', if_neg fun hA => hm (List.mem_filter.mpr ⟨List.mem_range.mpr hi, hA⟩)]
    rfl

/-- The three forms `genFinal` takes when `transpose = false`, each with the condition it is chosen under. -/
theorem genFinal_AT_forms {c : Ctx} (ht : c.kind.isTry = true) (htr : c.transpose = false) (k : Nat) :
    ((c.inactiveVars k).isEmpty = true ∧ genFinal c k = .matchOkTuple (c.activePats k) c.vars) ∨
    ((c.inactiveVars k).isEmpty = false ∧
      genFinal c k = .matchOkTranspose (c.activePats k) (c.inactiveVars k) c.vars) ∨
    (c.n ≤ 1 ∧ genFinal c k = .matchOkSingle) := by
  unfold genFinal
  simp only [htr, ht, Bool.false_and, Bool.false_eq_true, if_false, if_true]
  by_cases hn1 : c.n > 1
  · cases hemp : (c.inactiveVars k).isEmpty
    · exact Or.inr (Or.inl ⟨rfl, by simp [hn1]⟩)
    · exact Or.inl ⟨rfl, by simp [hn1]⟩
  · exact Or.inr (Or.inr ⟨by omega, by simp [hn1]⟩)

/-! What follows `Ok(__sr) =>` in each of the three forms, run on the payloads `ps` of the last step in an environment
    as `payloads_of_inv` gives it: `Ok` of all payloads. -/
section
variable {c : Ctx} {names : List (Option String)} (ok : CtxOK c names) {k : Nat} {rest : Env} {ps : List Value}
  (hps : ps.length = (c.activeIdx k).length) {pay : Nat → Value}
  (henv : ∀ i, i < c.n → (bindPats (c.activePats k) ps rest).lookup (c.varOf i) =
    some (if c.isActive k i then pay i else Value.succ (pay i)))
include ok hps henv

/-- every branch ran in the last step -/
theorem final_tuple (hemp : (c.inactiveVars k).isEmpty = true) :
    ((extract (c.activePats k) (mkTuple ps) rest).andThen fun env3 =>
      (M.ofOption (lookupAll env3 c.vars)).andThen fun vs => M.ret (Value.succ (mkTuple vs))) =
      M.ret (.succ (mkTuple ((List.range c.n).map pay))) := by
  rw [inactiveVars_eq ok k] at hemp
  have hall : ∀ i, i < c.n → c.isActive k i = true := fun i hi => by
    have := List.filter_eq_nil_iff.mp (List.map_eq_nil_iff.mp (List.isEmpty_iff.mp hemp)) i (List.mem_range.mpr hi)
    simpa using this
  rw [extract_mkTuple _ _ _ (by rw [activePats_length ok k, hps]), M.ret_andThen,
    lookupAll_vars ok fun i hi => (henv i hi).trans (by rw [if_pos (hall i hi)])]
  rfl

/-- the transposer runs over exactly the branches that finished earlier: they still hold `Ok(payload)`, so it finds no
    failure -/
theorem final_transpose (hemp : (c.inactiveVars k).isEmpty = false) :
    ((extract (c.activePats k) (mkTuple ps) rest).andThen fun env3 => evalTransposer env3 (c.inactiveVars k) c.vars) =
      M.ret (.succ (mkTuple ((List.range c.n).map pay))) := by
  rw [inactiveVars_eq ok k] at hemp ⊢
  rw [extract_mkTuple _ _ _ (by rw [activePats_length ok k, hps]), M.ret_andThen,
    evalTransposer_vars ok _ (List.nodup_range.sublist List.filter_sublist)
      (fun i hi => List.mem_range.mp (List.mem_filter.mp hi).1) (fun h => by rw [h] at hemp; cases hemp) _ _ henv]
  have hS : ∀ i, i ∈ (List.range c.n).filter (fun i => !c.isActive k i) → c.isActive k i = false := fun i hi => by
    simpa using (List.mem_filter.mp hi).2
  rw [(firstFail_none_iff _).mpr fun x hx => by
    obtain ⟨i, hi, rfl⟩ := List.mem_map.mp hx
    rw [hS i hi]; rfl]
  refine congrArg (fun l => M.ret (Value.succ (mkTuple l))) (List.map_congr_left fun i hi => ?_)
  by_cases hA : c.isActive k i = true
  · rw [if_neg fun h => (by rw [hS i h] at hA; cases hA), if_pos hA]
  · rw [if_pos (List.mem_filter.mpr ⟨hi, by simpa using hA⟩), if_neg hA]; rfl

/-- a single branch, which ran in the last step -/
theorem final_single (hn : 0 < c.n) (hn1 : c.n ≤ 1) (hact : 1 ≤ (c.activeIdx k).length) :
    (M.ret (.succ (mkTuple ps)) : M Value) = M.ret (.succ (mkTuple ((List.range c.n).map pay))) := by
  have hn1' : c.n = 1 := by omega
  have h0 : (c.activeIdx k)[0] = 0 := by have := activeIdx_lt k _ (List.getElem_mem hact); omega
  have := henv 0 hn
  rw [← h0, lookup_bindPats_active ok k ps hps _ 0 hact, h0,
    if_pos (List.mem_filter.mp (h0 ▸ List.getElem_mem hact)).2] at this
  obtain ⟨p0, rfl⟩ := List.length_eq_one_iff.mp (show ps.length = 1 by
    have := List.length_filter_le (c.isActive k) (List.range c.n)
    rw [List.length_range] at this
    exact hps ▸ Nat.le_antisymm (hn1' ▸ this) hact)
  rw [hn1', List.range_one, List.map_singleton, ← Option.some.inj this]
  rfl

end

/-! ### the induction over the steps -/

theorem step_inv_AT {c : Ctx} {names : List (Option String)} (ok : CtxOK c names) (σ : World) (parent : Option String)
    {k : Nat} {env : Env} {vals : List (Option Value)} (hinv : Inv c names k env vals) (hsucc : AllSucc vals)
    (capss : List (List Value))
    (hcapss : (specCapsAll (specCfgOf σ parent names c) k (visibleSpec names vals) (c.activeIdx k)).res = .ok capss)
    (ps : List Value)
    (hr : (specChainsTry (specCfgOf σ parent names c) k vals (visibleSpec names vals) ((c.activeIdx k).zip capss)).res
      = .ok (.ok ps))
    (srs : List Value) :
    ps.length = (c.activeIdx k).length ∧
    Inv c names (k + 1)
      (bindPats (c.activePats k) (ps.map .succ)
        (srs.map (fun v => (Var.sr k, v)) ++ (stepJunk c (specCfgOf σ parent names c) k capss ++ env)))
      (updVals vals (c.activeIdx k) (ps.map .succ)) ∧
    AllSucc (updVals vals (c.activeIdx k) (ps.map .succ)) := by
  have hpl : ps.length = (c.activeIdx k).length := by
    have := specChainsTry_ok _ _ _ _ _ ps hr
    simpa [List.length_zip, (specCapsAll_length _ _ _ _ _ hcapss).1] using this
  exact ⟨hpl, step_inv ok σ parent hinv capss _ (by simpa using hpl) k srs,
    allSucc_updVals _ _ _ (by simpa using hpl.symm) (activeIdx_nodup k)
      (fun b hb => by rw [hinv.len]; exact activeIdx_lt k b hb) hsucc (by simp [Value.isSucc])⟩

theorem evalSteps_eq_AT {c : Ctx} {names : List (Option String)} (ok : CtxOK c names) (σ : World)
    (parent : Option String) (hn : 0 < c.n) (ha : c.kind.isAsync = true) (ht : c.kind.isTry = true)
    (htr : c.transpose = false) (hmax : c.maxSteps = (c.chains.map (·.length)).foldl max 0) :
    ∀ (rem k : Nat) (env : Env) (vals : List (Option Value)) (steps : Steps),
      Inv c names k env vals → AllSucc vals → k + rem + 1 = c.maxSteps → genSteps c rem k = .ok steps →
      evalSteps (cfgOf σ parent names) env steps =
        (specLoopAT (specCfgOf σ parent names c) rem k vals).andThen fun f => M.ret (encode true f) := by
  intro rem k env vals steps hinv hsucc hkm hgen
  refine genSteps_induct (P := fun rem k steps => ∀ env vals, Inv c names k env vals → AllSucc vals →
    k + rem + 1 = c.maxSteps → evalSteps (cfgOf σ parent names) env steps =
      (specLoopAT (specCfgOf σ parent names c) rem k vals).andThen fun f => M.ret (encode true f)) ?_ ?_ hgen
    env vals hinv hsucc hkm
  · intro k s hs env vals hinv hsucc hkm
    -- what `hkm` is carried along for: a step below `maxSteps` has an operand
    have hact := active_nonempty ok hmax k (by omega)
    obtain ⟨hk, -⟩ := genStep_shape ok σ parent k s hs
    rw [evalSteps, evalStep_eq_AT ok σ parent k env vals hinv s hs ha ht hact, specLoopAT_eq,
      active_eq ok σ parent k, M.andThen_assoc]
    refine M.andThen_congr _ _ _ fun capss hcapss => ?_
    rw [M.andThen_assoc]
    refine M.andThen_congr _ _ _ fun r hr => ?_
    rw [hk]
    cases r with
    | error f =>
      have hf := (specChainsTry_error_last _ _ _ _ _ f hr).1
      -- the `v => v` arm of `match __srK` reduces only once `f` is seen not to be `Ok`
      rcases genFinal_AT_forms ht htr k with ⟨-, hfin⟩ | ⟨-, hfin⟩ | ⟨-, hfin⟩ <;>
        rw [hfin] <;> cases f <;> first | exact Bool.noConfusion hf | rfl
    | ok ps =>
      -- `Ok(__srK) => …` shadows `__srK` with the payload: two scratch bindings of one name on top
      obtain ⟨hpl, hinv', hsucc'⟩ := step_inv_AT ok σ parent hinv hsucc capss hcapss ps hr
        [mkTuple ps, .succ (mkTuple ps)]
      obtain ⟨finals, pay, hf1, hfp, henv⟩ := payloads_of_inv ok hpl hinv' hsucc'
      simp only [tryOut, specTailAT, active_eq ok σ parent k, hf1, M.ret_andThen, encode, if_true]
      rw [hfp]
      rcases genFinal_AT_forms ht htr k with ⟨hemp, hfin⟩ | ⟨hemp, hfin⟩ | ⟨hn1, hfin⟩ <;> rw [hfin]
      · exact final_tuple ok hpl henv hemp
      · exact final_transpose ok hpl henv hemp
      · exact final_single ok hpl henv hn hn1 hact
  · intro rem k s rest hs _ ih env vals hinv hsucc hkm
    have hact := active_nonempty ok hmax k (by omega)
    obtain ⟨hk, -⟩ := genStep_shape ok σ parent k s hs
    rw [evalSteps, evalStep_eq_AT ok σ parent k env vals hinv s hs ha ht hact, specLoopAT_eq,
      active_eq ok σ parent k, M.andThen_assoc]
    refine M.andThen_congr _ _ _ fun capss hcapss => ?_
    rw [M.andThen_assoc]
    refine M.andThen_congr _ _ _ fun r hr => ?_
    rw [hk, show genLink c k = .matchOk (some (idxProjs c k)) (c.activePats k) by simp [genLink, ht, htr, ha]]
    cases r with
    | error f =>
      have hf := (specChainsTry_error_last _ _ _ _ _ f hr).1
      cases f with
      | succ p => cases hf
      | _ => rfl
    | ok ps =>
      -- async: the payloads are wrapped in `Ok` again and bound to `__srK` a third time (`projs_mkTuple` reads the tuple apart)
      obtain ⟨hpl, hinv', hsucc'⟩ := step_inv_AT ok σ parent hinv hsucc capss hcapss ps hr
        [mkTuple (ps.map .succ), mkTuple ps, .succ (mkTuple ps)]
      have hrec := ih _ _ hinv' hsucc' (by omega)
      simp only [tryOut, specTailAT, active_eq ok σ parent k, M.ret_andThen,
        projs_mkTuple (c := c) k ps hpl (activeCount_eq ok k) hact]
      rw [extract_mkTuple _ _ _ (by rw [activePats_length ok k, List.length_map, hpl]), M.ret_andThen]
      exact hrec

/-! ### the reference loop -/

theorem specLoopAT_ok {c : SpecCfg} {rem k : Nat} {vals : List (Option Value)} {f : Fin}
    (h : (specLoopAT c rem k vals).res = .ok f) :
    ∃ caps r, (specCapsAll c k (visibleSpec c.names vals) (c.active k)).res = .ok caps ∧
      (specChainsTry c k vals (visibleSpec c.names vals) ((c.active k).zip caps)).res = .ok r ∧
      ∃ rest, (specLoopAT c rem k vals).trace = (specCapsAll c k (visibleSpec c.names vals) (c.active k)).trace ++
          ((specChainsTry c k vals (visibleSpec c.names vals) ((c.active k).zip caps)).trace ++ rest) ∧
        match r with
        | .error v => f = .failed v ∧ rest = []
        | .ok ps =>
          (rem = 0 ∧ rest = [] ∧ ∃ finals, allSome (updVals vals (c.active k) (ps.map .succ)) = some finals ∧
            f = .vals (finals.filterMap payload?)) ∨
          ∃ rem', rem = rem' + 1 ∧ rest = (specLoopAT c rem' (k + 1) (updVals vals (c.active k) (ps.map .succ))).trace ∧
            (specLoopAT c rem' (k + 1) (updVals vals (c.active k) (ps.map .succ))).res = .ok f := by
  rw [specLoopAT] at h ⊢
  obtain ⟨caps, hcaps, h⟩ := M.andThen_res_ok h
  obtain ⟨r, hr, h⟩ := M.andThen_res_ok h
  -- `rest` is left to unification: whatever trace the continuation has
  refine ⟨caps, r, hcaps, hr, _, by rw [(M.andThen_trace_ok hcaps).1, (M.andThen_trace_ok hr).1], ?_⟩
  cases r with
  | error v => cases h; exact ⟨rfl, rfl⟩
  | ok ps =>
    cases rem with
    | zero =>
      refine Or.inl ⟨rfl, ?_⟩
      simp only at h ⊢
      cases hall : allSome (updVals vals (c.active k) (ps.map .succ)) with
      | none => rw [hall] at h; cases h
      | some finals => rw [hall] at h; cases h; exact ⟨rfl, finals, rfl, rfl⟩
    | succ rem => exact Or.inr ⟨rem, rfl, rfl, h⟩

theorem specLoopAT_post (sc : SpecCfg) (htry : sc.kind.isTry = true) (rem k : Nat) (vals : List (Option Value)) (f : Fin)
    (hsucc : AllSucc vals) (hlen : vals.length = sc.n) (h : (specLoopAT sc rem k vals).res = .ok f) :
    f.OK vals.length sc.kind.isTry := by
  induction rem using Nat.strongRecOn generalizing k vals with
  | ind rem ih =>
    obtain ⟨caps, r, hcaps, hr, rest, -, hcase⟩ := specLoopAT_ok h
    cases r with
    | error v => obtain ⟨rfl, -⟩ := hcase; exact ⟨(specChainsTry_error_last _ _ _ _ _ v hr).1, htry⟩
    | ok ps =>
      have hpl := specChainsTry_ok _ _ _ _ _ ps hr
      have hsucc' : AllSucc (updVals vals (sc.active k) (ps.map Value.succ)) :=
        allSucc_updVals _ _ _ (by simp [hpl, List.length_zip, (specCapsAll_length _ _ _ _ _ hcaps).1]) (active_nodup sc k)
          (fun b hb => by rw [hlen]; exact active_lt sc k b hb) hsucc (by simp [Value.isSucc])
      rcases hcase with ⟨-, -, finals, hall, rfl⟩ | ⟨rem', rfl, -, h'⟩
      · have hff : firstFail finals = none := by
          rw [firstFail_none_iff]
          intro v hv
          obtain ⟨i, hi, rfl⟩ := List.getElem_of_mem hv
          exact hsucc' i _ (by rw [allSome_getElem _ _ hall, List.getElem?_eq_getElem hi]; rfl)
        show _ = _
        rw [firstFail_none_payloads _ hff, allSome_length _ _ hall, updVals_length]
      · have := ih rem' (Nat.lt_succ_self _) (k + 1) _ hsucc' (by rw [updVals_length]; exact hlen) h'
        rwa [updVals_length] at this

/-- **A failing async try run stops at the failing chain** (canonical schedule): the trace of the loop ends with the
    end of the chain that returned the failure `v`, and `v` — returned unchanged — is not a success.  Nothing of a later
    step, no other chain behind it in its own step, no handler call. -/
theorem specLoopAT_failed (c : SpecCfg) (rem k : Nat) (vals : List (Option Value)) (v : Value)
    (h : (specLoopAT c rem k vals).res = .ok (.failed v)) :
    v.isSucc = false ∧ ∃ pre b j, (specLoopAT c rem k vals).trace = pre ++ [.ev (.chainEnd b j v)] ∧ k ≤ j := by
  induction rem using Nat.strongRecOn generalizing k vals with
  | ind rem ih =>
    obtain ⟨caps, r, hcaps, hr, rest, htr, hcase⟩ := specLoopAT_ok h
    rw [htr]
    cases r with
    | error f =>
      obtain ⟨hf, rfl⟩ := hcase
      cases hf
      obtain ⟨hv, pre, b, hp, -⟩ := specChainsTry_error_last _ _ _ _ _ _ hr
      exact ⟨hv, (specCapsAll c k (visibleSpec c.names vals) (c.active k)).trace ++ pre, b, k, by rw [hp]; simp, Nat.le_refl _⟩
    | ok ps =>
      rcases hcase with ⟨-, -, finals, -, hf⟩ | ⟨rem', rfl, rfl, h'⟩
      · cases hf
      · obtain ⟨hv, pre, b, j, hp, hj⟩ := ih rem' (Nat.lt_succ_self _) _ _ h'
        exact ⟨hv, (specCapsAll c k (visibleSpec c.names vals) (c.active k)).trace ++
          ((specChainsTry c k vals (visibleSpec c.names vals) ((c.active k).zip caps)).trace ++ pre), b, j, by rw [hp]; simp, by omega⟩

/-! ### the theorem -/

/-- The inputs `async_try_refines` speaks about: the async try macros with default options. -/
structure SupportedAT (p : Input) (kind : Kind) : Prop extends SupportedBase p where
  isAsync : kind.isAsync = true
  isTry : kind.isTry = true
  transposeDefault : p.transpose ≠ some true

/-- **Refinement for the async try macros** (`try_join_async!`, `try_join_async_spawn!`, aliases): under the canonical
    schedule the generated code is the async-try reference loop — events and result, every program, world and size. -/
theorem async_try_refines (σ : World) (parent : Option String) (p : Input) (kind : Kind) (code : Code)
    (hs : SupportedAT p kind) (hgen : gen p kind = .ok code) :
    evalCode σ parent code = specRunAT σ parent p kind := by
  refine refines_gen σ parent p kind code hgen specLoopAT (fun c steps hc hmax hsteps => ?_) (fun c f hc h => ?_)
  · have ok := mkCtx_ok hs.toSupportedBase hc
    have hi := mkCtx_inv hc
    have ha : c.kind.isAsync = true := by rw [hi.kind]; exact hs.isAsync
    have ht : c.kind.isTry = true := by rw [hi.kind]; exact hs.isTry
    -- async try macros do not transpose unless told to, which `hs` excludes: links are `matchOk`, finals those of `genFinal_AT_forms`
    have htr : c.transpose = false := by
      rw [hi.transpose, hs.isAsync, hs.isTry]
      cases hp : p.transpose with
      | none => rfl
      | some b =>
        cases b with
        | false => rfl
        | true => exact absurd hp hs.transposeDefault
    have hpos : 0 < c.n := hi.n ▸ List.length_pos_iff.mpr hi.branches
    rw [hs.isTry]
    exact evalSteps_eq_AT ok σ parent hpos ha ht htr (by rw [hi.maxSteps, hi.depths]) (c.maxSteps - 1) 0 [] _ steps
      Inv.init (allSucc_init' c.n) (by omega) hsteps
  · have ok := mkCtx_ok hs.toSupportedBase hc
    have htry : (specCfgOf σ parent (namesOf p) c).kind.isTry = true := by
      show c.kind.isTry = true
      rw [(mkCtx_inv hc).kind]; exact hs.isTry
    have := specLoopAT_post _ htry _ _ _ f (allSucc_init' c.n) (by simp [SpecCfg.n, specCfgOf, ok.nEq]) h
    rwa [List.length_replicate, htry, ← hs.isTry] at this

end JoinModel
