/-
  Poll-level model of what an async macro's future does (C09).  `Sem`/`Spec` (`sync_refines`) fix *what* an async macro
  computes under the canonical schedule (every operand polled to completion in turn); this file models *how* the future
  is driven.  A `Task` is the future of one branch in one step: segments of user events, each behind an optional gate (a
  pending point that becomes ready when the outside world opens the gate), and the chain's output.  `pollStep` is one
  poll of `futures::join!` / `try_join!`.  A `Plan` is the `async move` block: steps one after the other, the tasks of a
  step built from the outputs of the previous one; `Plan.run` is a sequence of polls between which arbitrary gates are
  opened (the empty set: a spurious poll).

  Assumed, not proved (trusted base): that rustc's `async`/`.await` and the futures crate's `join!`/`try_join!`
  behave like `Plan.poll`/`pollStep`.  K2-async compares the model's per-poll event sequence with the real future on
  a deterministic executor under random gate schedules.
-/
namespace JoinModel

abbrev Gates := Nat → Bool

structure Seg (ε : Type) where
  gate : Option Nat
  evs : List ε
  deriving Repr

structure Task (ε α : Type) where
  segs : List (Seg ε)
  out : α
  deriving Repr

variable {ε α ρ : Type}

def Seg.ready (op : Gates) (s : Seg ε) : Bool :=
  match s.gate with
  | none => true
  | some g => op g

/-- run the segments whose gates are open, up to the first closed gate -/
def advSegs (op : Gates) : List (Seg ε) → List ε × List (Seg ε)
  | [] => ([], [])
  | s :: rest =>
    if s.ready op then ((s.evs ++ (advSegs op rest).1), (advSegs op rest).2) else ([], s :: rest)

def Task.poll (op : Gates) (t : Task ε α) : List ε × Task ε α := ((advSegs op t.segs).1, ⟨(advSegs op t.segs).2, t.out⟩)

def Task.done (t : Task ε α) : Bool := t.segs.isEmpty

/-- the gate an unfinished task is waiting for (where its waker is registered) -/
def Task.waitsOn (t : Task ε α) : Option Nat :=
  match t.segs with
  | s :: _ => s.gate
  | [] => none

def Task.allEvs (t : Task ε α) : List ε := t.segs.flatMap (·.evs)

/-- One poll of `join!(t₁, …, tₙ)` (`stop = fun _ => false`) or `try_join!` (`stop` = "is a failure"): every operand is
    polled once, in order; an operand that has finished with a stopping output ends the poll at once. -/
def pollStep (op : Gates) (stop : α → Bool) : List (Task ε α) → List ε × List (Task ε α) × Option α
  | [] => ([], [], none)
  | t :: ts =>
    if (t.poll op).2.done && stop (t.poll op).2.out then ((t.poll op).1, (t.poll op).2 :: ts, some (t.poll op).2.out)
    else (((t.poll op).1 ++ (pollStep op stop ts).1), (t.poll op).2 :: (pollStep op stop ts).2.1, (pollStep op stop ts).2.2)

/-- the body of the `async move` block -/
inductive Plan (ε α ρ : Type) where
  | done (r : ρ)
  /-- a step: when to stop early (`stop`) and with what (`onStop`), its tasks, the events emitted once all tasks have
      finished (`pre`, from their outputs: in `planLoop` the block captures of the *next* step), and how to go on from
      the outputs (`next`) -/
  | step (stop : α → Bool) (onStop : α → ρ) (ts : List (Task ε α)) (pre : List α → List ε) (next : List α → Plan ε α ρ)

/-- one poll of the macro's future -/
def Plan.poll (op : Gates) : Plan ε α ρ → List ε × Plan ε α ρ
  | .done r => ([], .done r)
  | .step stop onStop ts pre next =>
    match (pollStep op stop ts).2.2 with
    | some a => ((pollStep op stop ts).1, .done (onStop a))
    | none =>
      if (pollStep op stop ts).2.1.all Task.done then
        ((pollStep op stop ts).1 ++ pre ((pollStep op stop ts).2.1.map (·.out)) ++
            ((next ((pollStep op stop ts).2.1.map (·.out))).poll op).1,
          ((next ((pollStep op stop ts).2.1.map (·.out))).poll op).2)
      else ((pollStep op stop ts).1, .step stop onStop (pollStep op stop ts).2.1 pre next)

def Plan.isDone : Plan ε α ρ → Bool
  | .done _ => true
  | _ => false

/-- a sequence of polls; `gs[i]` are the gates open at poll `i` -/
def Plan.run : List Gates → Plan ε α ρ → List ε × Plan ε α ρ
  | [], p => ([], p)
  | g :: gs, p => ((p.poll g).1 ++ ((p.poll g).2.run gs).1, ((p.poll g).2.run gs).2)

/-- the gates the pending future has registered its waker with -/
def Plan.wakeSet : Plan ε α ρ → List Nat
  | .done _ => []
  | .step _ _ ts _ _ => ts.filterMap Task.waitsOn

def allOpen : Gates := fun _ => true

/-! ### Tasks -/

theorem advSegs_allOpen (segs : List (Seg ε)) : advSegs allOpen segs = (segs.flatMap (·.evs), []) := by
  induction segs with
  | nil => rfl
  | cons s rest ih =>
    have : s.ready allOpen = true := by unfold Seg.ready; cases s.gate <;> rfl
    simp [advSegs, this, ih]

theorem advSegs_split (op : Gates) (segs : List (Seg ε)) :
    (advSegs op segs).1 ++ (advSegs op segs).2.flatMap (·.evs) = segs.flatMap (·.evs) := by
  induction segs with
  | nil => rfl
  | cons s rest ih =>
    by_cases h : s.ready op = true
    · simp [advSegs, h, ih]
    · simp [advSegs, h]

theorem advSegs_blocked (op : Gates) (segs : List (Seg ε)) :
    (advSegs op segs).2 = [] ∨ ∃ s rest g, (advSegs op segs).2 = s :: rest ∧ s.gate = some g ∧ op g = false := by
  induction segs with
  | nil => exact Or.inl rfl
  | cons s rest ih =>
    by_cases h : s.ready op = true
    · simp only [advSegs, h, if_true]; exact ih
    · right
      refine ⟨s, rest, ?_⟩
      simp only [advSegs, h]
      unfold Seg.ready at h
      cases hg : s.gate with
      | none => simp [hg] at h
      | some g => exact ⟨g, by simp, rfl, by simpa [hg] using h⟩

theorem Task.poll_out (op : Gates) (t : Task ε α) : (t.poll op).2.out = t.out := rfl

theorem Task.poll_allOpen (t : Task ε α) : t.poll allOpen = (t.allEvs, ⟨[], t.out⟩) := by
  simp [Task.poll, advSegs_allOpen, Task.allEvs]

theorem Task.poll_split (op : Gates) (t : Task ε α) : (t.poll op).1 ++ (t.poll op).2.allEvs = t.allEvs :=
  advSegs_split op t.segs

/-- **Wake-up registration.**  After a poll, a task is finished or waits on a gate that is closed. -/
theorem Task.poll_blocked (op : Gates) (t : Task ε α) :
    (t.poll op).2.done = true ∨ ∃ g, (t.poll op).2.waitsOn = some g ∧ op g = false := by
  rcases advSegs_blocked op t.segs with h | ⟨s, rest, g, h1, h2, h3⟩
  · left; simp [Task.poll, Task.done, h]
  · right; exact ⟨g, by simp [Task.poll, Task.waitsOn, h1, h2], h3⟩

/-- **Progress.**  A task whose next gate is open emits its next segment when polled. -/
theorem Task.poll_progress (op : Gates) (t : Task ε α) (s : Seg ε) (rest : List (Seg ε)) (hs : t.segs = s :: rest)
    (hr : s.ready op = true) : ∃ more, (t.poll op).1 = s.evs ++ more ∧ (t.poll op).2.segs.length ≤ rest.length := by
  refine ⟨(advSegs op rest).1, by simp [Task.poll, hs, advSegs, hr], ?_⟩
  simp only [Task.poll, hs, advSegs, hr, if_true]
  clear hs hr
  induction rest with
  | nil => simp [advSegs]
  | cons s' r ih =>
    by_cases h : s'.ready op = true
    · simp only [advSegs, h, if_true, List.length_cons]; omega
    · simp [advSegs, h]

/-! ### One poll of a step -/

theorem pollStep_nostop (op : Gates) (stop : α → Bool) (ts : List (Task ε α)) (hs : ∀ t ∈ ts, stop t.out = false) :
    pollStep op stop ts = (ts.flatMap fun t => (t.poll op).1, ts.map fun t => (t.poll op).2, none) := by
  induction ts with
  | nil => rfl
  | cons t ts ih =>
    have h1 : stop (t.poll op).2.out = false := hs t (by simp)
    simp [pollStep, h1, ih (fun t' ht' => hs t' (by simp [ht']))]

/-- **A pending branch never blocks a ready sibling** (`join!`): every operand comes out of the poll exactly as if it
    had been polled alone, and the poll's events are the operands' own events, in operand order. -/
theorem pollStep_join (op : Gates) (ts : List (Task ε α)) :
    (pollStep op (fun _ => false) ts).2.1 = ts.map (fun t => (t.poll op).2) ∧
    (pollStep op (fun _ => false) ts).1 = ts.flatMap (fun t => (t.poll op).1) ∧
    (pollStep op (fun _ => false) ts).2.2 = none := by
  rw [pollStep_nostop op _ ts fun _ _ => rfl]
  exact ⟨rfl, rfl, rfl⟩

theorem pollStep_prefix (op : Gates) (stop : α → Bool) (ts : List (Task ε α)) :
    ∃ n, n ≤ ts.length ∧
      (pollStep op stop ts).2.1 = (ts.take n).map (fun t => (t.poll op).2) ++ ts.drop n ∧
      (pollStep op stop ts).1 = (ts.take n).flatMap (fun t => (t.poll op).1) ∧
      ((pollStep op stop ts).2.2 = none → n = ts.length) := by
  fun_induction pollStep op stop ts with
  | case1 => exact ⟨0, by simp, rfl, rfl, fun _ => rfl⟩
  | case2 t ts hc => exact ⟨1, by simp, by simp, by simp, nofun⟩
  | case3 t ts hc ih =>
    obtain ⟨n, hn, h1, h2, h3⟩ := ih
    exact ⟨n + 1, by simp; omega, by simp [h1], by simp [h2], fun h => by simp [h3 h]⟩

theorem pollStep_outs (op : Gates) (stop : α → Bool) (ts : List (Task ε α)) :
    (pollStep op stop ts).2.1.map (·.out) = ts.map (·.out) := by
  fun_induction pollStep op stop ts <;> simp_all [Task.poll_out]

theorem pollStep_length (op : Gates) (stop : α → Bool) (ts : List (Task ε α)) :
    (pollStep op stop ts).2.1.length = ts.length := by
  simpa using congrArg List.length (pollStep_outs op stop ts)

theorem pollStep_allOpen_join (ts : List (Task ε α)) :
    pollStep allOpen (fun _ => false) ts = (ts.flatMap Task.allEvs, ts.map (fun t => ⟨[], t.out⟩), none) := by
  obtain ⟨h1, h2, h3⟩ := pollStep_join allOpen ts
  exact Prod.ext (by simp [h2, Task.poll_allOpen]) (Prod.ext (by simp [h1, Task.poll_allOpen]) h3)

/-- **No lost wake-up.**  When a poll of a step leaves it pending (no early stop), every unfinished operand waits on a
    closed gate: the step is pending only because of closed gates, each of them in the set the future has registered
    its waker with. -/
theorem pollStep_blocked (op : Gates) (stop : α → Bool) (ts : List (Task ε α))
    (hnone : (pollStep op stop ts).2.2 = none) :
    ∀ t ∈ (pollStep op stop ts).2.1, t.done = true ∨ ∃ g, t.waitsOn = some g ∧ op g = false := by
  obtain ⟨n, _, h1, _, h3⟩ := pollStep_prefix op stop ts
  have hn := h3 hnone
  subst hn
  intro t ht
  rw [h1] at ht
  simp only [List.take_length, List.drop_length, List.append_nil, List.mem_map] at ht
  obtain ⟨t0, _, rfl⟩ := ht
  exact Task.poll_blocked op t0

theorem pollStep_events_in (op : Gates) (stop : α → Bool) (ts : List (Task ε α)) (S : ε → Prop)
    (hS : ∀ t ∈ ts, ∀ e ∈ t.allEvs, S e) :
    (∀ e ∈ (pollStep op stop ts).1, S e) ∧ (∀ t ∈ (pollStep op stop ts).2.1, ∀ e ∈ t.allEvs, S e) := by
  obtain ⟨n, _, h1, h2, _⟩ := pollStep_prefix op stop ts
  have hp : ∀ t ∈ ts.take n, ∀ e ∈ (t.poll op).1 ++ (t.poll op).2.allEvs, S e := fun t ht => by
    rw [Task.poll_split]; exact hS t (List.mem_of_mem_take ht)
  rw [h1, h2]
  refine ⟨fun e he => ?_, fun t ht e he => ?_⟩
  · obtain ⟨t, ht, he⟩ := List.mem_flatMap.mp he
    exact hp t ht e (List.mem_append_left _ he)
  · rcases List.mem_append.mp ht with ht | ht
    · obtain ⟨t0, ht0, rfl⟩ := List.mem_map.mp ht
      exact hp t0 ht0 e (List.mem_append_right _ he)
    · exact hS t (List.mem_of_mem_drop ht) e he

theorem pollStep_stop_some (op : Gates) (stop : α → Bool) (ts : List (Task ε α)) (a : α)
    (h : (pollStep op stop ts).2.2 = some a) : stop a = true ∧ a ∈ ts.map (·.out) := by
  fun_induction pollStep op stop ts with
  | case1 => cases h
  | case2 t ts hc =>
    cases h
    exact ⟨(Bool.and_eq_true _ _ ▸ hc).2, by simp [Task.poll_out]⟩
  | case3 t ts hc ih => exact ⟨(ih h).1, List.mem_cons_of_mem _ (ih h).2⟩

theorem pollStep_stopper_not_all_done (op : Gates) (stop : α → Bool) (ts : List (Task ε α))
    (hst : ∃ t ∈ ts, stop t.out = true) (hn : (pollStep op stop ts).2.2 = none) :
    (pollStep op stop ts).2.1.all Task.done = false := by
  fun_induction pollStep op stop ts with
  | case1 => obtain ⟨t, ht, _⟩ := hst; cases ht
  | case2 t ts hc => cases hn
  | case3 t ts hc ih =>
    obtain ⟨t0, ht0, hs0⟩ := hst
    rcases List.mem_cons.mp ht0 with rfl | ht0
    · simp only [Task.poll_out, hs0, Bool.and_true, Bool.not_eq_true] at hc
      simp [hc]
    · simp [ih ⟨t0, ht0, hs0⟩ hn]

/-! ### The whole future -/

/-- canonical semantics: every step's operands run to their end in order (with `try_join!`, up to the first operand
    that stops); this is the run in which every gate is open -/
def firstStop (stop : α → Bool) : List (Task ε α) → List ε × Option α
  | [] => ([], none)
  | t :: ts => if stop t.out then (t.allEvs, some t.out) else (t.allEvs ++ (firstStop stop ts).1, (firstStop stop ts).2)

def Plan.canon : Plan ε α ρ → List ε × ρ
  | .done r => ([], r)
  | .step stop onStop ts pre next =>
    match (firstStop stop ts).2 with
    | some a => ((firstStop stop ts).1, onStop a)
    | none => ((firstStop stop ts).1 ++ pre (ts.map (·.out)) ++ (next (ts.map (·.out))).canon.1,
               (next (ts.map (·.out))).canon.2)

theorem Plan.run_done (gs : List Gates) (r : ρ) : (Plan.done r : Plan ε α ρ).run gs = ([], .done r) := by
  induction gs with
  | nil => rfl
  | cons g gs ih => simp [Plan.run, Plan.poll, ih]

theorem Plan.run_append (gs gs' : List Gates) (p : Plan ε α ρ) :
    p.run (gs ++ gs') = ((p.run gs).1 ++ ((p.run gs).2.run gs').1, ((p.run gs).2.run gs').2) := by
  induction gs generalizing p with
  | nil => rfl
  | cons g gs ih => simp [Plan.run, ih]

theorem pollStep_allOpen (stop : α → Bool) (ts : List (Task ε α)) :
    (pollStep allOpen stop ts).1 = (firstStop stop ts).1 ∧ (pollStep allOpen stop ts).2.2 = (firstStop stop ts).2 ∧
    ((firstStop stop ts).2 = none → (pollStep allOpen stop ts).2.1 = ts.map (fun t => ⟨[], t.out⟩)) := by
  induction ts with
  | nil => exact ⟨rfl, rfl, fun _ => rfl⟩
  | cons t ts ih =>
    obtain ⟨h1, h2, h3⟩ := ih
    by_cases hs : stop t.out = true
    · simp [pollStep, firstStop, Task.poll_allOpen, Task.done, hs]
    · simp only [Bool.not_eq_true] at hs
      simp only [pollStep, firstStop, Task.poll_allOpen, Task.done, hs, Bool.and_false, Bool.false_eq_true, if_false, h1, h2]
      refine ⟨trivial, trivial, fun hn => ?_⟩
      simp [h3 hn]

/-- **Completion.**  With every gate open one poll completes the future, with the canonical events and result. -/
theorem Plan.poll_allOpen (p : Plan ε α ρ) : p.poll allOpen = (p.canon.1, .done p.canon.2) := by
  induction p with
  | done r => rfl
  | step stop onStop ts pre next ih =>
    obtain ⟨h1, h2, h3⟩ := pollStep_allOpen stop ts
    cases hfs : (firstStop stop ts).2 with
    | some a => simp only [Plan.poll, Plan.canon, h1, h2, hfs]
    | none =>
      have hall : ((pollStep allOpen stop ts).2.1.all Task.done) = true := by
        rw [h3 hfs]; simp [Task.done]
      simp only [Plan.poll, Plan.canon, h1, h2, hfs, hall, if_true, pollStep_outs, ih]

theorem Plan.run_allOpen_done (gs : List Gates) (pl : Plan ε α ρ) : ((pl.run (gs ++ [allOpen])).2).isDone = true := by
  simp [Plan.run_append, Plan.run, Plan.poll_allOpen, Plan.isDone]

/-- a plan none of whose steps stops early: `join!` steps, or `try_join!` steps in which no operand's output stops -/
inductive Plan.NoStop : Plan ε α ρ → Prop
  | done (r : ρ) : Plan.NoStop (.done r)
  | step (stop : α → Bool) (onStop : α → ρ) (ts : List (Task ε α)) (pre : List α → List ε) (next : List α → Plan ε α ρ)
      (hs : ∀ t ∈ ts, stop t.out = false)
      (h : ∀ outs, Plan.NoStop (next outs)) : Plan.NoStop (.step stop onStop ts pre next)

theorem firstStop_nostop (stop : α → Bool) (ts : List (Task ε α)) (hs : ∀ t ∈ ts, stop t.out = false) :
    firstStop stop ts = (ts.flatMap Task.allEvs, none) := by
  induction ts with
  | nil => rfl
  | cons t ts ih => simp [firstStop, hs t (by simp), ih (fun t' ht' => hs t' (by simp [ht']))]

theorem firstStop_never (ts : List (Task ε α)) : firstStop (fun _ => false) ts = (ts.flatMap Task.allEvs, none) :=
  firstStop_nostop _ ts fun _ _ => rfl

theorem polls_perm (op : Gates) (ts : List (Task ε α)) :
    ((ts.flatMap fun t => (t.poll op).1) ++ (ts.map fun t => (t.poll op).2).flatMap Task.allEvs).Perm
      (ts.flatMap Task.allEvs) := by
  induction ts with
  | nil => exact List.Perm.refl _
  | cons t ts iht =>
    simp only [List.flatMap_cons, List.map_cons, ← Task.poll_split op t, List.append_assoc]
    refine List.Perm.append_left _ (List.Perm.trans ?_ (iht.append_left _))
    rw [← List.append_assoc, ← List.append_assoc]
    exact List.perm_append_comm.append_right _

theorem Plan.poll_canon (op : Gates) (p : Plan ε α ρ) (hp : p.NoStop) :
    ((p.poll op).1 ++ (p.poll op).2.canon.1).Perm p.canon.1 ∧ (p.poll op).2.canon.2 = p.canon.2 ∧ (p.poll op).2.NoStop := by
  induction hp with
  | done r => exact ⟨.refl _, rfl, .done r⟩
  | step stop onStop ts pre next hs hnext ih =>
    have hs' : ∀ t ∈ ts.map fun t => (t.poll op).2, stop t.out = false := by simpa [Task.poll_out] using hs
    have hout : (ts.map fun t => (t.poll op).2).map (·.out) = ts.map (·.out) := by
      simp [Function.comp_def, Task.poll_out]
    have hperm := polls_perm op ts
    simp only [Plan.poll, Plan.canon, pollStep_nostop op stop ts hs, firstStop_nostop stop ts hs, hout]
    split
    · -- the step is finished in this poll: nothing of its operands is left, go on
      rename_i hall
      obtain ⟨i1, i2, i3⟩ := ih (ts.map (·.out))
      have hrest : (ts.map fun t => (t.poll op).2).flatMap Task.allEvs = [] :=
        List.flatMap_eq_nil_iff.mpr fun t ht => by
          have := List.all_eq_true.mp hall t ht
          simp only [Task.done, List.isEmpty_iff] at this
          simp [Task.allEvs, this]
      rw [hrest, List.append_nil] at hperm
      simp only [List.append_assoc]
      exact ⟨hperm.append (i1.append_left _), i2, i3⟩
    · simp only [Plan.canon, firstStop_nostop stop _ hs', hout, ← List.append_assoc]
      exact ⟨(hperm.append_right _).append_right _, trivial, .step _ _ _ _ _ hs' hnext⟩

/-- **Schedule independence and completion** (`join!` plans): under *every* schedule of gate openings — any order, any
    batches, spurious polls — the future completes as soon as it is polled with all gates open, with the canonical
    result, having emitted exactly the canonical events (each once), possibly in another order across branches. -/
theorem Plan.run_complete (gs : List Gates) (p : Plan ε α ρ) (hp : p.NoStop) :
    (p.run (gs ++ [allOpen])).2 = .done p.canon.2 ∧ (p.run (gs ++ [allOpen])).1.Perm p.canon.1 := by
  induction gs generalizing p with
  | nil =>
    simp [Plan.run, Plan.poll_allOpen]
  | cons g gs ih =>
    obtain ⟨c1, c2, c3⟩ := Plan.poll_canon g p hp
    obtain ⟨i1, i2⟩ := ih (p.poll g).2 c3
    simp only [List.cons_append, Plan.run]
    exact ⟨by rw [i1, c2], (i2.append_left _).trans c1⟩

/-- **No lost wake-up, for the whole future.**  If a poll leaves the future pending, every gate it has registered
    its waker with is closed, and there is at least one: the future is never pending for no reason, and whichever
    operand becomes ready next, its gate is among the registered ones. -/
theorem Plan.pending_blocked (op : Gates) (p : Plan ε α ρ) (h : (p.poll op).2.isDone = false) :
    (p.poll op).2.wakeSet ≠ [] ∧ ∀ g ∈ (p.poll op).2.wakeSet, op g = false := by
  fun_induction Plan.poll op p with
  | case1 r => cases h
  | case2 => cases h
  | case3 stop onStop ts pre next _ _ ih => exact ih h
  | case4 stop onStop ts pre next hst hall =>
    have hb := pollStep_blocked op stop ts hst
    simp only [Plan.wakeSet]
    constructor
    · -- some operand is unfinished, and it waits on a gate
      obtain ⟨t, ht, hnd⟩ := List.all_eq_false.mp (by simpa using hall)
      rcases hb t ht with hd | ⟨g, hg, _⟩
      · exact absurd hd hnd
      · exact List.ne_nil_of_mem (List.mem_filterMap.mpr ⟨t, ht, hg⟩)
    · intro g hg
      obtain ⟨t, ht, hw⟩ := List.mem_filterMap.mp hg
      rcases hb t ht with hd | ⟨g', hg', hcl⟩
      · simp only [Task.done, List.isEmpty_iff] at hd
        simp [Task.waitsOn, hd] at hw
      · cases hg'.symm.trans hw
        exact hcl

/-- **Laziness** in the model: a future that has not been polled has emitted nothing (`run []`) — all events come
    from polls. -/
theorem Plan.run_nil (p : Plan ε α ρ) : p.run [] = ([], p) := rfl

/-! ### Sequencing: what runs after the last step (the handler)

  `pl.bind k sm`: when `pl` ends normally with `r`, go on with the plan `(k r).2`, whose entry events `(k r).1` are
  emitted at that moment; when a step of `pl` stops early with `r`, the result is `sm r` and nothing else runs. -/

def Plan.bind : Plan ε α ρ → (ρ → List ε × Plan ε α ρ') → (ρ → ρ') → List ε × Plan ε α ρ'
  | .done r, k, _ => k r
  | .step stop onStop ts pre next, k, sm =>
    ([], .step stop (fun a => sm (onStop a)) ts (fun outs => pre outs ++ ((next outs).bind k sm).1)
      (fun outs => ((next outs).bind k sm).2))

/-- every early-stop result of the plan satisfies `P` -/
inductive Plan.AllStops (P : ρ → Prop) : Plan ε α ρ → Prop
  | done (r : ρ) : Plan.AllStops P (.done r)
  | step (stop : α → Bool) (onStop : α → ρ) (ts : List (Task ε α)) (pre : List α → List ε) (next : List α → Plan ε α ρ)
      (hs : ∀ a, P (onStop a)) (h : ∀ outs, Plan.AllStops P (next outs)) : Plan.AllStops P (.step stop onStop ts pre next)

theorem Plan.bind_canon (P : ρ → Prop) (k : ρ → List ε × Plan ε α ρ') (sm : ρ → ρ')
    (hk : ∀ r, P r → k r = ([], .done (sm r))) (pl : Plan ε α ρ) (hP : pl.AllStops P) :
    (pl.bind k sm).1 ++ (pl.bind k sm).2.canon.1 = pl.canon.1 ++ (k pl.canon.2).1 ++ (k pl.canon.2).2.canon.1 ∧
    (pl.bind k sm).2.canon.2 = (k pl.canon.2).2.canon.2 := by
  induction hP with
  | done r => simp [Plan.bind, Plan.canon]
  | step stop onStop ts pre next hs _ ih =>
    simp only [Plan.bind, Plan.canon, List.nil_append]
    cases hfs : (firstStop stop ts).2 with
    | some a => simp [hk _ (hs a), Plan.canon]
    | none =>
      obtain ⟨i1, i2⟩ := ih (ts.map (·.out))
      simp only
      refine ⟨?_, i2⟩
      rw [List.append_assoc, List.append_assoc, i1]
      simp [List.append_assoc]

theorem Plan.bind_nostop (k : ρ → List ε × Plan ε α ρ') (sm : ρ → ρ') (hk : ∀ r, (k r).2.NoStop)
    (pl : Plan ε α ρ) (hp : pl.NoStop) : (pl.bind k sm).2.NoStop := by
  induction hp with
  | done r => exact hk r
  | step stop onStop ts pre next hs _ ih => exact Plan.NoStop.step _ _ _ _ _ hs ih

/-! ### A failed step aborts everything after it -/

/-- **A step with a stopping operand is never passed**, whatever the schedule (`try_join!`: a failure; any step: a
    panic): the future stays in this step or ends with the stop result of one of its stopping operands, and only events
    of this step's operands (`S`) are ever emitted — nothing of `pre`, nothing of `next` (later steps, the handler). -/
theorem Plan.run_stopper (S : ε → Prop) (stop : α → Bool) (onStop : α → ρ) (pre : List α → List ε)
    (next : List α → Plan ε α ρ) (outs : List α) (hst : ∃ a ∈ outs, stop a = true) (gs : List Gates) :
    ∀ ts : List (Task ε α), ts.map (·.out) = outs → (∀ t ∈ ts, ∀ e ∈ t.allEvs, S e) →
      (∀ e ∈ ((Plan.step stop onStop ts pre next).run gs).1, S e) ∧
      ((∃ ts', ((Plan.step stop onStop ts pre next).run gs).2 = .step stop onStop ts' pre next) ∨
       (∃ a, ((Plan.step stop onStop ts pre next).run gs).2 = .done (onStop a) ∧ stop a = true ∧ a ∈ outs)) := by
  induction gs with
  | nil => exact fun ts _ _ => ⟨nofun, .inl ⟨ts, rfl⟩⟩
  | cons g gs ih =>
    intro ts houts hS
    obtain ⟨e1, e2⟩ := pollStep_events_in g stop ts S hS
    simp only [Plan.run, Plan.poll, List.forall_mem_append]
    cases hps : (pollStep g stop ts).2.2 with
    | some a => exact ⟨⟨e1, by simp [Plan.run_done]⟩, .inr ⟨a, by simp [Plan.run_done], houts ▸ pollStep_stop_some g stop ts a hps⟩⟩
    | none =>
      have hstt : ∃ t ∈ ts, stop t.out = true := by
        obtain ⟨a, ha, hsa⟩ := hst
        obtain ⟨t, ht, rfl⟩ := List.mem_map.mp (houts ▸ ha)
        exact ⟨t, ht, hsa⟩
      simp only [pollStep_stopper_not_all_done g stop ts hstt hps, Bool.false_eq_true, if_false]
      obtain ⟨i1, i2⟩ := ih (pollStep g stop ts).2.1 (by rw [pollStep_outs, houts]) e2
      exact ⟨⟨e1, i1⟩, i2⟩

/-! ### The step barrier

  `lv` gives every event a level (its step number, or a finer key).  Whatever gates are open at whatever polls, the levels
  along the events a leveled plan emits never decrease: nothing of a later step before every operand of the current one
  has finished. -/

inductive Plan.Leveled (lv : ε → Nat) : Nat → Plan ε α ρ → Prop
  | done (n : Nat) (r : ρ) : Plan.Leveled lv n (.done r)
  /-- operands at level `n`, the events of entering the next step at `a ≥ n`, the rest of the plan at `b ≥ a` -/
  | step (n a b : Nat) (hna : n ≤ a) (hab : a ≤ b) (stop : α → Bool) (onStop : α → ρ) (ts : List (Task ε α))
      (pre : List α → List ε) (next : List α → Plan ε α ρ) (ht : ∀ t ∈ ts, ∀ e ∈ t.allEvs, lv e = n)
      (hp : ∀ outs, ∀ e ∈ pre outs, lv e = a)
      (hn : ∀ outs, Plan.Leveled lv b (next outs)) : Plan.Leveled lv n (.step stop onStop ts pre next)

theorem pairwise_const_level (lv : ε → Nat) (l : List ε) (k : Nat) (hl : ∀ e ∈ l, lv e = k) :
    (l.map lv).Pairwise (· ≤ ·) :=
  List.pairwise_map.mpr (List.pairwise_of_forall_mem_list fun a ha b hb => Nat.le_of_eq ((hl a ha).trans (hl b hb).symm))

def Rising (lv : ε → Nat) (n : Nat) (es : List ε) (m : Nat) : Prop :=
  n ≤ m ∧ (es.map lv).Pairwise (· ≤ ·) ∧ ∀ e ∈ es, n ≤ lv e ∧ lv e ≤ m

theorem Rising.const {lv : ε → Nat} {n a m : Nat} {es : List ε} (h : ∀ e ∈ es, lv e = a) (hna : n ≤ a) (ham : a ≤ m) :
    Rising lv n es m :=
  ⟨Nat.le_trans hna ham, pairwise_const_level lv es a h, fun e he => by rw [h e he]; exact ⟨hna, ham⟩⟩

theorem Rising.append {lv : ε → Nat} {n m k : Nat} {es es' : List ε} (h : Rising lv n es m) (h' : Rising lv m es' k) :
    Rising lv n (es ++ es') k := by
  obtain ⟨h1, h2, h3⟩ := h
  obtain ⟨h1', h2', h3'⟩ := h'
  refine ⟨Nat.le_trans h1 h1', ?_, ?_⟩
  · rw [List.map_append, List.pairwise_append]
    refine ⟨h2, h2', fun u hu v hv => ?_⟩
    obtain ⟨x, hx, rfl⟩ := List.mem_map.mp hu
    obtain ⟨y, hy, rfl⟩ := List.mem_map.mp hv
    exact Nat.le_trans (h3 x hx).2 (h3' y hy).1
  · intro e he
    rcases List.mem_append.mp he with he | he
    · exact ⟨(h3 e he).1, Nat.le_trans (h3 e he).2 h1'⟩
    · exact ⟨Nat.le_trans h1 (h3' e he).1, (h3' e he).2⟩

theorem Plan.Leveled.poll (lv : ε → Nat) (op : Gates) {n : Nat} {pl : Plan ε α ρ} (h : pl.Leveled lv n) :
    ∃ m, (pl.poll op).2.Leveled lv m ∧ Rising lv n (pl.poll op).1 m := by
  fun_induction Plan.poll op pl generalizing n with
  | case1 r => exact ⟨n, h, .const (a := n) nofun (Nat.le_refl _) (Nat.le_refl _)⟩
  | case2 stop onStop ts pre next a _ =>
    cases h with | step _ a b hna hab _ _ _ _ _ ht hp hn =>
    exact ⟨n, .done _ _, .const (pollStep_events_in op stop ts _ ht).1 (Nat.le_refl _) (Nat.le_refl _)⟩
  | case3 stop onStop ts pre next _ _ ih =>
    cases h with | step _ a b hna hab _ _ _ _ _ ht hp hn =>
    obtain ⟨m, hl, hr⟩ := ih (hn _)
    exact ⟨m, hl, ((Rising.const (pollStep_events_in op stop ts _ ht).1 (Nat.le_refl _) (Nat.le_refl _)).append
      (.const (hp _) hna hab)).append hr⟩
  | case4 stop onStop ts pre next _ _ =>
    cases h with | step _ a b hna hab _ _ _ _ _ ht hp hn =>
    obtain ⟨e1, e2⟩ := pollStep_events_in op stop ts _ ht
    exact ⟨n, .step n a b hna hab _ _ _ _ _ e2 hp hn, .const e1 (Nat.le_refl _) (Nat.le_refl _)⟩

theorem Plan.Leveled.run_rising (lv : ε → Nat) (gs : List Gates) {n : Nat} {pl : Plan ε α ρ} (h : pl.Leveled lv n) :
    ∃ m, (pl.run gs).2.Leveled lv m ∧ Rising lv n (pl.run gs).1 m := by
  induction gs generalizing n pl with
  | nil => exact ⟨n, h, .const (a := n) nofun (Nat.le_refl _) (Nat.le_refl _)⟩
  | cons g gs ih =>
    obtain ⟨m, hl, hr⟩ := h.poll lv g
    obtain ⟨m', hl', hr'⟩ := ih hl
    exact ⟨m', hl', hr.append hr'⟩

/-- **Barrier, every schedule.**  Along any sequence of polls of a leveled plan the levels of the emitted events never
    decrease. -/
theorem Plan.Leveled.run (lv : ε → Nat) (gs : List Gates) : ∀ {n : Nat} {pl : Plan ε α ρ}, pl.Leveled lv n →
    ∃ m, n ≤ m ∧ (pl.run gs).2.Leveled lv m ∧ ((pl.run gs).1.map lv).Pairwise (· ≤ ·) ∧
      ∀ e ∈ (pl.run gs).1, n ≤ lv e ∧ lv e ≤ m := fun h =>
  let ⟨m, hl, hnm, hr⟩ := h.run_rising lv gs; ⟨m, hnm, hl, hr⟩

/-- every event the plan can ever emit satisfies `P` -/
inductive Plan.EvAll (P : ε → Prop) : Plan ε α ρ → Prop
  | done (r : ρ) : Plan.EvAll P (.done r)
  | step (stop : α → Bool) (onStop : α → ρ) (ts : List (Task ε α)) (pre : List α → List ε) (next : List α → Plan ε α ρ)
      (ht : ∀ t ∈ ts, ∀ e ∈ t.allEvs, P e) (hp : ∀ outs, ∀ e ∈ pre outs, P e)
      (hn : ∀ outs, Plan.EvAll P (next outs)) : Plan.EvAll P (.step stop onStop ts pre next)

theorem Plan.EvAll.poll (P : ε → Prop) (op : Gates) {pl : Plan ε α ρ} (h : pl.EvAll P) :
    (pl.poll op).2.EvAll P ∧ ∀ e ∈ (pl.poll op).1, P e := by
  fun_induction Plan.poll op pl with
  | case1 r => exact ⟨h, nofun⟩
  | case2 stop onStop ts pre next a _ =>
    cases h with | step _ _ _ _ _ ht hp hn => exact ⟨.done _, (pollStep_events_in op stop ts P ht).1⟩
  | case3 stop onStop ts pre next _ _ ih =>
    cases h with | step _ _ _ _ _ ht hp hn =>
    exact ⟨(ih (hn _)).1, by
      simp only [List.forall_mem_append]; exact ⟨⟨(pollStep_events_in op stop ts P ht).1, hp _⟩, (ih (hn _)).2⟩⟩
  | case4 stop onStop ts pre next _ _ =>
    cases h with | step _ _ _ _ _ ht hp hn =>
    obtain ⟨e1, e2⟩ := pollStep_events_in op stop ts P ht
    exact ⟨.step _ _ _ _ _ e2 hp hn, e1⟩

theorem Plan.EvAll.run (P : ε → Prop) (gs : List Gates) : ∀ {pl : Plan ε α ρ}, pl.EvAll P →
    (∀ e ∈ (pl.run gs).1, P e) ∧ (pl.run gs).2.EvAll P := by
  induction gs with
  | nil => exact fun h => ⟨nofun, h⟩
  | cons g gs ih =>
    intro pl h
    obtain ⟨i1, i2⟩ := ih (h.poll P g).1
    exact ⟨List.forall_mem_append.mpr ⟨(h.poll P g).2, i1⟩, i2⟩

end JoinModel
