/-
  A well-formed generator context (`CtxOK`) and the reference configuration it stands for (`specCfgOf`): the active
  branches and the actions of a step are the same on both sides; the shape of `genStep`'s output.
-/
import JoinModel.Lemmas.StepEval
namespace JoinModel

/-- what the refinement proof needs to know about a generator context (established for `mkCtx` by `mkCtx_ok`) -/
structure CtxOK (c : Ctx) (names : List (Option String)) : Prop where
  noJoiner : c.joiner = none
  /-- `evalElem` (Sem) gives a meaning to two combinations only: an operand evaluated in place (not lazy) and a closure
      handed to a thread (lazy); `lazy_branches(…)` set otherwise is outside the semantics, not merely outside the theorem -/
  lazyDefault : c.lazy = c.kind.threads
  nEq : c.n = c.chains.length
  depthsEq : c.depths = c.chains.map (·.length)
  patsLen : c.pats.length = c.n
  namesLen : names.length = c.n
  varsNodup : c.vars.Nodup
  varForm : ∀ i, i < c.n → c.varOf i = (match names[i]? with | some (some s) => Var.user s | _ => Var.r i)
  groupsNonempty : ∀ ch ∈ c.chains, ∀ g ∈ ch, g ≠ []
  firstInitial : ∀ ch ∈ c.chains, ∃ m g gs, ch = (m :: g) :: gs ∧ m.ctor = .initial

def specCfgOf (σ : World) (parent : Option String) (names : List (Option String)) (c : Ctx) : SpecCfg :=
  ⟨σ, c.kind, names, parent, c.chains⟩

section
variable {c : Ctx} {names : List (Option String)}

theorem isActive_eq (ok : CtxOK c names) (σ : World) (parent : Option String) (k i : Nat) :
    c.isActive k i = decide (k < (specCfgOf σ parent names c).depth i) := by
  rw [Ctx.isActive, SpecCfg.depth, specCfgOf, ← List.getElem?_map, ← ok.depthsEq]
  cases c.depths[i]? <;> simp

theorem active_eq (ok : CtxOK c names) (σ : World) (parent : Option String) (k : Nat) : (specCfgOf σ parent names c).active k = c.activeIdx k := by
  simp only [SpecCfg.active, Ctx.activeIdx, SpecCfg.n, specCfgOf]
  rw [← ok.nEq]
  congr 1
  funext i
  exact (isActive_eq ok σ parent k i).symm

theorem activeCount_eq (ok : CtxOK c names) (k : Nat) : c.activeCount k = (c.activeIdx k).length := by
  have hn : c.depths.length = c.n := by rw [ok.depthsEq, List.length_map, ok.nEq]
  have hd : c.depths = (List.range c.n).map fun b => (c.depths[b]?).getD 0 :=
    List.ext_getElem (by simp [hn]) fun i h1 _ => by simp [h1]
  rw [Ctx.activeCount, Ctx.activeIdx, hd, List.filter_map, List.length_map]
  refine congrArg _ (List.filter_congr fun b hb => ?_)
  have hb : b < c.depths.length := hn ▸ List.mem_range.mp hb
  simp [Ctx.isActive, hb]

theorem idxProjs_multi {k : Nat} (h : c.activeCount k > 1) :
    idxProjs c k = (List.range (c.activeIdx k).length).map Proj.idx :=
  List.map_congr_left fun _ _ => if_pos h

theorem stepActs_zipIdx (ok : CtxOK c names) (σ : World) (parent : Option String) (k : Nat) :
    (c.stepActs k).zipIdx 0 = (List.range c.n).map fun b => ((specCfgOf σ parent names c).acts b k, b) := by
  refine List.ext_getElem (by simp [Ctx.stepActs, ok.nEq]) fun i h1 _ => ?_
  have hi : i < c.chains.length := by simpa [Ctx.stepActs] using h1
  simp [Ctx.stepActs, SpecCfg.acts, specCfgOf, hi]

theorem acts_nonempty_iff (ok : CtxOK c names) (σ : World) (parent : Option String) (k b : Nat) (hb : b < c.n) :
    ((specCfgOf σ parent names c).acts b k).isEmpty = !c.isActive k b := by
  rw [isActive_eq ok σ parent]
  simp only [SpecCfg.acts, SpecCfg.depth, specCfgOf]
  have hb' : b < c.chains.length := ok.nEq ▸ hb
  simp only [List.getElem?_eq_getElem hb', Option.bind_some, Option.map_some, Option.getD_some]
  by_cases hk : k < c.chains[b].length
  · simp only [List.getElem?_eq_getElem hk, Option.getD_some, hk, decide_true, Bool.not_true]
    have := ok.groupsNonempty c.chains[b] (List.getElem_mem hb') _ (List.getElem_mem hk)
    cases hg : (c.chains[b])[k] with
    | nil => exact absurd hg this
    | cons _ _ => rfl
  · simp [hk]

theorem genStep_shape (ok : CtxOK c names) (σ : World) (parent : Option String) (k : Nat) (s : StepCode) (h : genStep c k = .ok s) :
    s.k = k ∧
    s.defs = (c.activeIdx k).flatMap (fun b => capDefsOf b ((specCfgOf σ parent names c).acts b k) 0) ∧
    s.elems.map Elem.sem = (c.activeIdx k).map (fun b =>
      (b, c.multi k && c.lazy, c.wrapOf k b, c.varOf b, (specCfgOf σ parent names c).acts b k)) ∧
    ((c.kind.isAsync = false → s.form = .tuple) ∧
     (c.kind.isAsync = true → c.activeCount k ≤ 1 ∧ s.form = .awaitCat ∨ ∃ j, s.form = .futJoin j c.kind.isTry)) ∧
    s.tbs = (if c.kind.threads && decide (c.activeCount k ≥ 2) then (c.activeIdx k).map (fun b => (b, b)) else []) ∧
    s.spawnJoin = (if c.kind.threads && decide (c.activeCount k ≥ 2) then some (idxProjs c k) else none) := by
  obtain ⟨hel, hk, hform, htbs, hsj⟩ := genStep_inv h
  obtain ⟨hd, he⟩ := genElems_spec c k (c.stepActs k) 0 _ _ hel
  rw [stepActs_zipIdx ok σ parent k] at hd he
  -- `genElems` keeps the branches that have actions, the reference loop those with `k < depth`: the same, no group being empty
  have hact : ∀ b ∈ List.range c.n, (!((specCfgOf σ parent names c).acts b k).isEmpty) = c.isActive k b := fun b hb => by
    rw [acts_nonempty_iff ok σ parent k b (List.mem_range.mp hb), Bool.not_not]
  refine ⟨hk, ?_, ?_, ?_, ?_, ?_⟩
  · -- inactive branches have no actions, hence no definitions
    rw [hd, List.flatMap_map, Ctx.activeIdx, flatMap_filter]
    intro b hb hna
    rw [← hact b hb] at hna
    cases hacts : (specCfgOf σ parent names c).acts b k with
    | nil => rfl
    | cons _ _ => rw [hacts] at hna; cases hna
  · rw [he, List.filter_map, List.map_map, Ctx.activeIdx]
    exact congrArg _ (List.filter_congr hact)
  · rw [hform, stepForm, ok.noJoiner]
    by_cases ha : c.kind.isAsync = true
    · by_cases hm : c.activeCount k > 1
      · simp [ha, hm]
      · simp [ha, hm, Nat.le_of_not_lt hm]
    · simp [ha]
  · rw [htbs]; simp [Kind.threads, Bool.and_comm]
  · rw [hsj]; simp [Kind.threads, Bool.and_comm]

end

end JoinModel
