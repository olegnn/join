/-
  The result variables of the branches (`c.varOf`, the patterns of the active and of the other branches) and what
  binding the results of a step does to them; the invariant `Inv` between the environment of the generated code and
  the state of the reference loop: blind to scratch names, preserved by one step, and how it starts (step 0).
-/
import JoinModel.Lemmas.CtxFacts
namespace JoinModel

/-! ### active patterns -/

section
variable {c : Ctx} {names : List (Option String)}

theorem varOf_eq (ok : CtxOK c names) (i : Nat) (hi : i < c.n) :
    c.varOf i = (c.pats[i]'(ok.patsLen ▸ hi)).var := by
  simp [Ctx.varOf, List.getElem?_eq_getElem (ok.patsLen ▸ hi)]

theorem vars_eq (ok : CtxOK c names) : c.vars = (List.range c.n).map c.varOf := by
  apply List.ext_getElem
  · simp [Ctx.vars, ok.patsLen]
  · intro i h1 h2
    simp only [Ctx.vars, List.getElem_map, List.getElem_range]
    have hi : i < c.n := by simpa [Ctx.vars, ok.patsLen] using h1
    rw [varOf_eq ok i hi]

theorem pats_filter_vars (ok : CtxOK c names) (p : Nat → Bool) :
    (c.pats.zipIdx.filter fun x => p x.2).map (·.1.var) = ((List.range c.n).filter p).map c.varOf := by
  have hsnd : (c.pats.zipIdx 0).map Prod.snd = List.range c.n := by
    rw [List.zipIdx_map_snd, ok.patsLen, List.range_eq_range']
  rw [← hsnd, List.filter_map, List.map_map]
  refine List.map_congr_left fun pi hpi => ?_
  have h2 : c.pats[pi.2]? = some pi.1 := by simpa using List.mem_zipIdx_iff_getElem?.mp (List.mem_filter.mp hpi).1
  simp only [Function.comp, Ctx.varOf, h2]
  rfl

theorem activePats_vars (ok : CtxOK c names) (k : Nat) : c.activeVars k = (c.activeIdx k).map c.varOf := by
  rw [Ctx.activeVars, Ctx.activePats, List.map_map]
  exact pats_filter_vars ok (c.isActive k)

theorem inactiveVars_eq (ok : CtxOK c names) (k : Nat) :
    c.inactiveVars k = ((List.range c.n).filter (fun i => !c.isActive k i)).map c.varOf :=
  pats_filter_vars ok fun i => !c.isActive k i

theorem activePats_length (ok : CtxOK c names) (k : Nat) : (c.activePats k).length = (c.activeIdx k).length := by
  have := congrArg List.length (activePats_vars ok k)
  simpa [Ctx.activeVars] using this

theorem activeIdx_nodup (k : Nat) : (c.activeIdx k).Nodup :=
  List.Nodup.sublist List.filter_sublist List.nodup_range

theorem activeIdx_lt (k : Nat) : ∀ b ∈ c.activeIdx k, b < c.n := by
  intro b hb
  exact List.mem_range.mp (List.mem_filter.mp hb).1

theorem varOf_inj (ok : CtxOK c names) (i j : Nat) (hi : i < c.n) (hj : j < c.n) (h : c.varOf i = c.varOf j) : i = j := by
  have hnd := ok.varsNodup
  rw [vars_eq ok] at hnd
  have hi' : i < ((List.range c.n).map c.varOf).length := by simpa using hi
  have hj' : j < ((List.range c.n).map c.varOf).length := by simpa using hj
  exact (List.getElem_inj (h₀ := hi') (h₁ := hj') hnd).mp (by simpa using h)

theorem varOf_not_scratch (ok : CtxOK c names) (i : Nat) (hi : i < c.n) : (c.varOf i).isScratch = false := by
  rw [ok.varForm i hi]
  split <;> rfl

theorem activeVars_nodup (ok : CtxOK c names) (k : Nat) : (c.activeVars k).Nodup := by
  rw [activePats_vars ok k]
  exact (vars_eq ok ▸ ok.varsNodup).sublist (List.filter_sublist.map _)

theorem activeVars_getElem (ok : CtxOK c names) (k pos : Nat) (h : pos < (c.activeVars k).length) :
    (c.activeVars k)[pos] = c.varOf ((c.activeIdx k)[pos]'(by simpa [activePats_vars ok k] using h)) := by
  simp only [activePats_vars ok k, List.getElem_map]

theorem lookup_bindPats_active (ok : CtxOK c names) (k : Nat) (news : List Value)
    (hn : news.length = (c.activeIdx k).length) (env : Env) (pos : Nat) (hp : pos < (c.activeIdx k).length) :
    (bindPats (c.activePats k) news env).lookup (c.varOf (c.activeIdx k)[pos]) = some (news[pos]'(hn ▸ hp)) := by
  have hl : (c.activeVars k).length = news.length := by rw [activePats_vars ok k, List.length_map, hn]
  rw [bindPats, show (c.activePats k).map (·.var) = c.activeVars k from rfl, List.lookup_append,
    ← activeVars_getElem ok k pos (hl ▸ hn ▸ hp), lookup_zip_of_nodup _ _ hl (activeVars_nodup ok k) pos (hl ▸ hn ▸ hp)]
  rfl

theorem lookup_bindPats_inactive (ok : CtxOK c names) (k : Nat) (news : List Value) (env : Env) (i : Nat) (hi : i < c.n)
    (hna : i ∉ c.activeIdx k) : (bindPats (c.activePats k) news env).lookup (c.varOf i) = env.lookup (c.varOf i) := by
  rw [bindPats, show (c.activePats k).map (·.var) = c.activeVars k from rfl, List.lookup_append,
    lookup_eq_none_of_not_mem, Option.none_or]
  intro hm
  obtain ⟨xv, hxv, hx⟩ := List.mem_map.mp hm
  have h1 := (List.of_mem_zip hxv).1
  rw [activePats_vars ok k] at h1
  obtain ⟨b, hb, hbv⟩ := List.mem_map.mp h1
  exact hna (varOf_inj ok b i (activeIdx_lt k b hb) hi (hbv.trans hx) ▸ hb)

end

/-! ### the invariant -/

/-- The environment `env` of the generated code against the state `vals` of the reference loop, in front of step `k`.
    `agree` goes through `.join`: a branch has no value before its first step.  `bound`: every branch is active in step 0
    (`activeIdx_zero`), so from step 1 on each holds a value, and the lookup of a chain's previous value cannot get stuck.
    Only the result variables are mentioned: scratch names (`__sr`, `__ew`, `__j`) may be bound on top (`Inv.scratch`). -/
structure Inv (c : Ctx) (names : List (Option String)) (k : Nat) (env : Env) (vals : List (Option Value)) : Prop where
  len : vals.length = c.n
  agree : ∀ i, i < c.n → env.lookup (c.varOf i) = (vals[i]?).join
  bound : 0 < k → ∀ i, i < c.n → ((vals[i]?).join).isSome = true

theorem visible_eq {c : Ctx} {names : List (Option String)} (ok : CtxOK c names) {k : Nat} {env : Env}
    {vals : List (Option Value)} (hinv : Inv c names k env vals) : visible names env = visibleSpec names vals := by
  unfold visible visibleSpec
  apply filterMap_zip_eq names vals (by rw [ok.namesLen, hinv.len])
  intro i h1
  have hi : i < c.n := ok.namesLen ▸ h1
  cases hn : names[i] with
  | none => rfl
  | some s =>
    have hv := ok.varForm i hi
    rw [List.getElem?_eq_getElem h1, hn] at hv
    simp only at hv
    have := hinv.agree i hi
    rw [hv] at this
    simp only [Option.bind_some, this]
    have hlen : i < vals.length := by rw [hinv.len]; exact hi
    rw [List.getElem?_eq_getElem hlen]
    rfl

theorem lookup_scratch_append (junk env : Env) (x : Var) (hj : ∀ xv ∈ junk, xv.1.isScratch = true)
    (hx : x.isScratch = false) : (junk ++ env).lookup x = env.lookup x := by
  rw [List.lookup_append, lookup_eq_none_of_not_mem, Option.none_or]
  intro hm
  obtain ⟨xv, hxv, h⟩ := List.mem_map.mp hm
  have := hj xv hxv
  rw [h, hx] at this
  cases this

theorem Inv.scratch {c : Ctx} {names : List (Option String)} (ok : CtxOK c names) {k : Nat} {env : Env}
    {vals : List (Option Value)} (hinv : Inv c names k env vals) (junk : Env)
    (hj : ∀ xv ∈ junk, xv.1.isScratch = true) : Inv c names k (junk ++ env) vals :=
  ⟨hinv.len, fun i hi => by rw [lookup_scratch_append _ _ _ hj (varOf_not_scratch ok i hi)]; exact hinv.agree i hi,
    hinv.bound⟩

theorem activeIdx_zero {c : Ctx} {names : List (Option String)} (ok : CtxOK c names) : c.activeIdx 0 = List.range c.n := by
  refine List.filter_eq_self.mpr fun i hi => ?_
  have hic : i < c.chains.length := ok.nEq ▸ List.mem_range.mp hi
  obtain ⟨m, g, gs, hch, _⟩ := ok.firstInitial c.chains[i] (List.getElem_mem hic)
  simp [Ctx.isActive, ok.depthsEq, hic, hch]

theorem inv_step {c : Ctx} {names : List (Option String)} (ok : CtxOK c names) {k : Nat} {env : Env}
    {vals : List (Option Value)} (hinv : Inv c names k env vals) (news : List Value)
    (hn : news.length = (c.activeIdx k).length) :
    Inv c names (k + 1) (bindPats (c.activePats k) news env) (updVals vals (c.activeIdx k) news) := by
  have hup : ∀ i, i < c.n → ∀ pos (hpos : pos < (c.activeIdx k).length), (c.activeIdx k)[pos] = i →
      (updVals vals (c.activeIdx k) news)[i]? = some (some (news[pos]'(hn ▸ hpos))) := fun i hi pos hpos hp =>
    hp ▸ updVals_mem vals (c.activeIdx k) news hn.symm (activeIdx_nodup k) pos hpos (by rw [hp, hinv.len]; exact hi)
  refine ⟨by rw [updVals_length, hinv.len], fun i hi => ?_, fun _ i hi => ?_⟩
  · by_cases hmem : i ∈ c.activeIdx k
    · obtain ⟨pos, hpos, hp⟩ := List.getElem_of_mem hmem
      rw [hup i hi pos hpos hp, ← hp, lookup_bindPats_active ok k news hn env pos hpos]
      rfl
    · rw [lookup_bindPats_inactive ok k news env i hi hmem, updVals_not_mem _ _ _ _ hmem]
      exact hinv.agree i hi
  · by_cases hmem : i ∈ c.activeIdx k
    · obtain ⟨pos, hpos, hp⟩ := List.getElem_of_mem hmem
      rw [hup i hi pos hpos hp]
      rfl
    · rw [updVals_not_mem _ _ _ _ hmem]
      refine hinv.bound (Nat.pos_of_ne_zero fun hk => hmem ?_) i hi
      subst hk
      exact activeIdx_zero ok ▸ List.mem_range.mpr hi

/-! ### step 0 -/

section
variable {c : Ctx} {names : List (Option String)}

theorem acts_zero_noPrev (ok : CtxOK c names) (σ : World) (parent : Option String) :
    ∀ b ∈ c.activeIdx 0, usesPrev ((specCfgOf σ parent names c).acts b 0) = false := by
  intro b hb
  have hbc : b < c.chains.length := ok.nEq ▸ activeIdx_lt 0 b hb
  obtain ⟨m, g, gs, hch, hm⟩ := ok.firstInitial c.chains[b] (List.getElem_mem hbc)
  simp [SpecCfg.acts, specCfgOf, List.getElem?_eq_getElem hbc, hch, usesPrev, hm]

theorem Inv.init : Inv c names 0 [] (List.replicate c.n none) :=
  ⟨by simp, fun i hi => by simp [List.lookup, hi], fun h => absurd h (Nat.lt_irrefl 0)⟩

end

end JoinModel
