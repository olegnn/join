/-
  Counting occurrences of an identifier in token trees, and the two local conservation facts of the generator
  (`emitTokens`, `hoist`).  The property statements built on them are in Props/C10.
-/
import JoinModel.ChainGen
namespace JoinModel

mutual
  def cntTT (s : String) : TT → Nat
    | .ident x => if x = s then 1 else 0
    | .group _ ts => cntToks s ts
    | _ => 0
  def cntToks (s : String) : List TT → Nat
    | [] => 0
    | t :: ts => cntTT s t + cntToks s ts
end

theorem cntToks_append (s : String) (a b : Toks) : cntToks s (a ++ b) = cntToks s a + cntToks s b := by
  induction a with
  | nil => simp [cntToks]
  | cons t a ih => simp [cntToks, ih, Nat.add_assoc]

mutual
  def litCount (s : String) : List TmplTok → Nat
    | [] => 0
    | t :: ts => litCountTok s t + litCount s ts
  def litCountTok (s : String) : TmplTok → Nat
    | .tok t => cntTT s t
    | .hole _ => 0
    | .group _ ts => litCount s ts
end

mutual
  def holesOf : List TmplTok → List Nat
    | [] => []
    | t :: ts => holesOfTok t ++ holesOf ts
  def holesOfTok : TmplTok → List Nat
    | .tok _ => []
    | .hole i => [i]
    | .group _ ts => holesOf ts
end

def sumList : List Nat → Nat
  | [] => 0
  | x :: xs => x + sumList xs

theorem sumList_append (a b : List Nat) : sumList (a ++ b) = sumList a + sumList b := by
  induction a with
  | nil => simp [sumList]
  | cons x a ih => simp [sumList, ih, Nat.add_assoc]

@[simp] theorem cntToks_nil (s : String) : cntToks s [] = 0 := by simp [cntToks]
@[simp] theorem cntToks_cons (s : String) (t : TT) (ts : Toks) : cntToks s (t :: ts) = cntTT s t + cntToks s ts := by
  simp [cntToks]
@[simp] theorem cntTT_paren (s : String) (ts : Toks) : cntTT s (paren ts) = cntToks s ts := by simp [paren, cntTT]
@[simp] theorem cntTT_brace (s : String) (ts : Toks) : cntTT s (brace ts) = cntToks s ts := by simp [brace, cntTT]
@[simp] theorem cntTT_pu (s : String) (c : Char) : cntTT s (pu c) = 0 := by simp [pu, cntTT]
@[simp] theorem cntTT_pj (s : String) (c : Char) : cntTT s (pj c) = 0 := by simp [pj, cntTT]
theorem cntTT_id (s x : String) (h : x ≠ s) : cntTT s (id' x) = 0 := by simp [id', cntTT, h]
theorem cntTT_var (s : String) (v : Var) (h : v.render ≠ s) : cntTT s v.tok = 0 := by simp [Var.tok, cntTT, h]
@[simp] theorem sumList_nil : sumList [] = 0 := rfl
@[simp] theorem sumList_cons (x : Nat) (xs : List Nat) : sumList (x :: xs) = x + sumList xs := rfl

mutual
  theorem instTmpl_count (s : String) (t : List TmplTok) (ops : List Toks) (r : Toks) (h : instTmpl t ops = some r) :
      cntToks s r = litCount s t + sumList ((holesOf t).map fun i => cntToks s ((ops[i]?).getD [])) := by
    cases t with
    | nil => simp [instTmpl] at h; subst h; simp [cntToks, litCount, holesOf]
    | cons x xs =>
      simp only [instTmpl] at h
      cases ha : instTmplTok x ops with
      | none => simp [ha] at h
      | some a =>
        cases hb : instTmpl xs ops with
        | none => simp [ha, hb] at h
        | some b =>
          simp [ha, hb] at h
          subst h
          rw [cntToks_append, instTmplTok_count s x ops a ha, instTmpl_count s xs ops b hb]
          simp only [litCount, holesOf, List.map_append, sumList_append]
          omega
  theorem instTmplTok_count (s : String) (t : TmplTok) (ops : List Toks) (r : Toks) (h : instTmplTok t ops = some r) :
      cntToks s r = litCountTok s t + sumList ((holesOfTok t).map fun i => cntToks s ((ops[i]?).getD [])) := by
    cases t with
    | tok x => simp [instTmplTok] at h; subst h; simp [cntToks, litCountTok, holesOfTok]
    | hole i =>
      simp only [instTmplTok] at h
      simp [litCountTok, holesOfTok, sumList, h]
    | group d ts =>
      simp only [instTmplTok] at h
      cases hi : instTmpl ts ops with
      | none => simp [hi] at h
      | some inner =>
        simp [hi] at h
        subst h
        have := instTmpl_count s ts ops inner hi
        simp [cntToks, cntTT, litCountTok, holesOfTok, this]
end

theorem templates_linear_tbl :
    ∀ row ∈ Tables.emit, ∀ t, row.2.2 = some t → holesOf t = List.range row.2.1 := by
  decide

mutual
  theorem instTmpl_isSome (ops : List Toks) : ∀ t : List TmplTok, (∀ i ∈ holesOf t, i < ops.length) → (instTmpl t ops).isSome = true
    | [], _ => rfl
    | x :: xs, h => by
      have h1 := instTmplTok_isSome ops x fun i hi => h i (by simp [holesOf, hi])
      have h2 := instTmpl_isSome ops xs fun i hi => h i (by simp [holesOf, hi])
      obtain ⟨a, ha⟩ := Option.isSome_iff_exists.mp h1
      obtain ⟨b, hb⟩ := Option.isSome_iff_exists.mp h2
      simp [instTmpl, ha, hb]
  theorem instTmplTok_isSome (ops : List Toks) : ∀ t : TmplTok, (∀ i ∈ holesOfTok t, i < ops.length) → (instTmplTok t ops).isSome = true
    | .tok _, _ => rfl
    | .hole i, h => by simp [instTmplTok, h i (by simp [holesOfTok])]
    | .group d ts, h => by
      obtain ⟨a, ha⟩ := Option.isSome_iff_exists.mp (instTmpl_isSome ops ts fun i hi => h i (by simpa [holesOfTok] using hi))
      simp [instTmplTok, ha]
end

theorem emitRow_some {c : Comb} {n : Nat} {t : List TmplTok} (h : emitRow c n = some (some t)) :
    ∃ row ∈ Tables.emit, row.2.2 = some t ∧ holesOf t = List.range n := by
  obtain ⟨row, hfind, hrow⟩ := Option.map_eq_some_iff.mp h
  have hn := List.find?_some hfind
  simp only [Bool.and_eq_true, beq_iff_eq] at hn
  have hmem := List.mem_of_find?_eq_some hfind
  exact ⟨row, hmem, hrow, hn.2 ▸ templates_linear_tbl row hmem t hrow⟩

/-- when the table has a template for the constructor and the number of operands, it can be instantiated -/
theorem emitTokens_ok {c : Comb} {ops : List Toks} (h : ((emitRow c ops.length).bind id).isSome = true) :
    ∃ r, emitTokens c ops = .ok r := by
  obtain ⟨t, ht⟩ := Option.isSome_iff_exists.mp h
  obtain ⟨x, hx, rfl⟩ := Option.bind_eq_some_iff.mp ht
  obtain ⟨_, _, _, hlin⟩ := emitRow_some hx
  obtain ⟨r, hr⟩ := Option.isSome_iff_exists.mp (instTmpl_isSome ops t fun i hi => by
    rw [hlin] at hi; exact List.mem_range.mp hi)
  exact ⟨r, by simp [emitTokens, hx, hr]⟩

/-- an identifier the macro's own templates never write -/
def UserIdent (s : String) : Prop := ∀ row ∈ Tables.emit, ∀ t, row.2.2 = some t → litCount s t = 0

instance (s : String) : Decidable (UserIdent s) := by unfold UserIdent; infer_instance

theorem sum_range_ops (s : String) (ops : List Toks) :
    sumList ((List.range ops.length).map fun i => cntToks s ((ops[i]?).getD [])) = sumList (ops.map (cntToks s)) := by
  induction ops with
  | nil => rfl
  | cons o ops ih =>
    rw [List.length_cons, List.range_succ_eq_map]
    simp only [List.map_cons, List.map_map, sumList, List.getElem?_cons_zero, Option.getD_some]
    have : ((fun i => cntToks s (((o :: ops)[i]?).getD [])) ∘ Nat.succ) = fun i => cntToks s ((ops[i]?).getD []) := by
      funext i; simp
    rw [this, ih]

theorem emit_conserves (s : String) (hs : UserIdent s) (c : Comb) (ops : List Toks) (r : Toks)
    (h : emitTokens c ops = .ok r) : cntToks s r = sumList (ops.map (cntToks s)) := by
  unfold emitTokens at h
  split at h
  · rename_i t hrow
    split at h
    · rename_i r' hinst
      cases h
      obtain ⟨row, hmem, hrow2, hlin⟩ := emitRow_some hrow
      rw [instTmpl_count s t ops _ hinst, hs row hmem t hrow2, hlin, Nat.zero_add, sum_range_ops]
    · cases h
  · cases h

/-- hoisting moves a block operand's tokens into a definition and leaves a generated name behind: no user token is lost or
    duplicated -/
theorem hoist_conserves (s : String) (hs : ∀ b e i, (Var.ew b e i).render ≠ s) (b e : Nat) (m : Member) :
    sumList ((hoist b e m).1.map fun d => cntToks s d.toks) + sumList ((hoist b e m).2.map (cntToks s)) =
      sumList (m.ops.map fun o => cntToks s o.toks) := by
  unfold hoist
  split
  -- over any list of (operand, index) pairs: the `zipIdx` of a tail starts at another offset, `m.ops` itself gives no induction
  · have key : ∀ (l : List (Operand × Nat)),
        sumList ((l.filterMap fun (x : Operand × Nat) =>
            if x.1.kind = .block then some (⟨b, e, x.2, x.1.toks⟩ : CapDef) else none).map fun d => cntToks s d.toks) +
          sumList ((l.map fun (x : Operand × Nat) =>
            if x.1.kind = .block then [(Var.ew b e x.2).tok] else x.1.toks).map (cntToks s)) =
        sumList (l.map fun oi => cntToks s oi.1.toks) := by
      intro l
      induction l with
      | nil => rfl
      | cons oi l ih =>
        by_cases hk : oi.1.kind = .block
        · have hname : cntToks s [(Var.ew b e oi.2).tok] = 0 := by
            simp [cntToks, cntTT, Var.tok, hs b e oi.2]
          simp only [List.filterMap_cons, hk, if_true, List.map_cons, sumList, hname]
          omega
        · simp only [List.filterMap_cons, hk, if_false, List.map_cons, sumList]
          omega
    conv => rhs; rw [← List.zipIdx_map_fst 0 m.ops, List.map_map]
    exact key _
  · simp [List.map_map, Function.comp_def]

end JoinModel
