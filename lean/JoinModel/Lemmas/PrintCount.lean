/-
  The printer writes every user-token-carrying field of the structured code exactly once and adds no user token of its
  own.  One traversal (`cnt_printCode_all`) counts the hoisted definitions, the chains, the joiner tokens and the handler;
  `cnt_printCode`, `expansion_count` (joiner free of `s`) and `joiner_count` (`s` only in the joiner) are its instances.
-/
import JoinModel.Lemmas.Conserve
import JoinModel.Print
namespace JoinModel

/-- every identifier the printer writes by itself (keywords, method and type names of the fixed templates) -/
def printerWords : List String :=
  ["let", "move", "Box", "pin", "spawn", "unwrap", "join", "await", "Err", "err", "unreachable", "as_ref", "map", "_", "true",
   "unwrap_or", "false", "__fail_index", "and_then", "match", "Ok", "if", "Some", "iter", "position", "else", "use", "FutureExt",
   "TryFutureExt", "StreamExt", "TryStreamExt", "fn", "T", "F", "__future", "impl", "future", "Future", "Output", "where", "Send",
   "static", "tokio", "unwrap_or_else", "panic", "async"]

/-- a user identifier as far as the printer is concerned -/
structure PMarker (s : String) : Prop extends Marker s where
  words : s ∉ printerWords
  inspectFn : cntToks s Templates.fnInspect = 0
  tbFn : cntToks s Templates.fnTb = 0

/-! ### `cntToks s` is additive; the printer's own tokens count nothing -/

theorem cnt_flatMap {α} (s : String) (f : α → Toks) (l : List α) :
    cntToks s (l.flatMap f) = sumList (l.map fun x => cntToks s (f x)) := by
  induction l with
  | nil => rfl
  | cons a l ih => simp only [List.flatMap_cons, cntToks_append, ih, List.map_cons, sumList_cons]

theorem cnt_commaSep (s : String) : ∀ (l : List Toks), cntToks s (commaSep l) = sumList (l.map (cntToks s))
  | [] => rfl
  | [a] => by simp only [commaSep, List.map_cons, List.map_nil, sumList_cons, sumList_nil, Nat.add_zero]
  | a :: b :: rest => by
    simp only [commaSep, cntToks_append, cntToks_cons, cntToks_nil, cntTT_pu, cnt_commaSep s (b :: rest), List.map_cons,
      sumList_cons, Nat.add_zero]

@[simp] theorem sumList_map_const_zero {α} (l : List α) : sumList (l.map fun _ => 0) = 0 := by
  induction l with
  | nil => rfl
  | cons a l ih => rw [List.map_cons, sumList_cons, ih]

theorem sumList_cnt_zero {α} (s : String) (f : α → Toks) (l : List α) (h : ∀ x ∈ l, cntToks s (f x) = 0) :
    sumList ((l.map f).map (cntToks s)) = 0 := by
  rw [List.map_map, List.map_congr_left (f := cntToks s ∘ f) (g := fun _ => 0) h, sumList_map_const_zero]

section
variable {s : String} (hm : PMarker s)
include hm

theorem cntTT_ivar (v : Var) (hi : v.isInternal = true) : cntTT s v.tok = 0 :=
  cntTT_var s v (hm.notInternal v hi)

/-- What every printer function is counted with, as one simp set: how `cntToks s` acts on the pieces of the printer's
    output; `s` is none of the printer's words; none of the internal names it writes.  The word facts are the members of
    `printerWords`, one by one: a keyword added to Print.lean goes into both. -/
theorem cnt_facts :
    ((∀ a b : Toks, cntToks s (a ++ b) = cntToks s a + cntToks s b) ∧ (∀ t ts, cntToks s (t :: ts) = cntTT s t + cntToks s ts) ∧
      cntToks s [] = 0 ∧ (∀ w, cntTT s (kw w) = if s = w then 1 else 0) ∧ (∀ c, cntTT s (pu c) = 0) ∧ (∀ c, cntTT s (pj c) = 0) ∧
      (∀ l, cntTT s (.lit l) = 0) ∧ (∀ ts, cntTT s (paren ts) = cntToks s ts) ∧ (∀ ts, cntTT s (brace ts) = cntToks s ts) ∧
      (∀ ts, cntTT s (bracket ts) = cntToks s ts) ∧ (∀ l : List Toks, cntToks s (commaSep l) = sumList (l.map (cntToks s))) ∧
      (∀ l : List Toks, cntToks s l.flatten = sumList (l.map (cntToks s))) ∧ (∀ n : Nat, n + 0 = n) ∧ (∀ n : Nat, 0 + n = n) ∧
      (∀ a b : Nat, (if False then a else b) = b)) ∧
    (¬ s = "let" ∧ ¬ s = "move" ∧ ¬ s = "Box" ∧ ¬ s = "pin" ∧ ¬ s = "spawn" ∧ ¬ s = "unwrap" ∧ ¬ s = "join" ∧ ¬ s = "await" ∧
      ¬ s = "Err" ∧ ¬ s = "err" ∧ ¬ s = "unreachable" ∧ ¬ s = "as_ref" ∧ ¬ s = "map" ∧ ¬ s = "_" ∧ ¬ s = "true" ∧
      ¬ s = "unwrap_or" ∧ ¬ s = "false" ∧ ¬ s = "__fail_index" ∧ ¬ s = "and_then" ∧ ¬ s = "match" ∧ ¬ s = "Ok" ∧ ¬ s = "if" ∧
      ¬ s = "Some" ∧ ¬ s = "iter" ∧ ¬ s = "position" ∧ ¬ s = "else" ∧ ¬ s = "use" ∧ ¬ s = "FutureExt" ∧ ¬ s = "TryFutureExt" ∧
      ¬ s = "StreamExt" ∧ ¬ s = "TryStreamExt" ∧ ¬ s = "fn" ∧ ¬ s = "T" ∧ ¬ s = "F" ∧ ¬ s = "__future" ∧ ¬ s = "impl" ∧
      ¬ s = "future" ∧ ¬ s = "Future" ∧ ¬ s = "Output" ∧ ¬ s = "where" ∧ ¬ s = "Send" ∧ ¬ s = "static" ∧ ¬ s = "tokio" ∧
      ¬ s = "unwrap_or_else" ∧ ¬ s = "panic" ∧ ¬ s = "async") ∧
    ((∀ k, cntTT s (Var.sr k).tok = 0) ∧ (∀ b, cntTT s (Var.j b).tok = 0) ∧ (∀ b e i, cntTT s (Var.ew b e i).tok = 0) ∧
      cntTT s Var.rs.tok = 0 ∧ cntTT s Var.h.tok = 0 ∧ cntTT s Var.v.tok = 0 ∧ cntTT s Var.tb.tok = 0 ∧
      cntTT s Var.spawnTokio.tok = 0) := by
  refine ⟨⟨cntToks_append s, cntToks_cons s, cntToks_nil s, fun w => by simp only [kw, cntTT, eq_comm], cntTT_pu s, cntTT_pj s,
    fun _ => rfl, cntTT_paren s, cntTT_brace s, fun _ => rfl, cnt_commaSep s,
    fun l => by rw [← List.flatMap_id, cnt_flatMap]; rfl, Nat.add_zero, Nat.zero_add, fun _ _ => if_false ..⟩, ?_,
    fun _ => cntTT_ivar hm _ rfl, fun _ => cntTT_ivar hm _ rfl, fun _ _ _ => cntTT_ivar hm _ rfl, cntTT_ivar hm _ rfl,
    cntTT_ivar hm _ rfl, cntTT_ivar hm _ rfl, cntTT_ivar hm _ rfl, cntTT_ivar hm _ rfl⟩
  have h := hm.words
  -- `not_or` yields the conjunction in the order of `printerWords`: the statement has to list the words in that very order
  simp only [printerWords, List.mem_cons, List.mem_nil_iff, or_false, not_or] at h
  exact h

theorem cnt_printElem (e : Elem) : cntToks s (printElem e) = cntToks s e.chain := by
  have hc : cntToks s (if e.lazy then [kw "move", pj '|', pu '|'] ++ e.chain else e.chain) = cntToks s e.chain := by
    simp only [apply_ite (cntToks s), cnt_facts hm, ite_self]
  unfold printElem
  cases e.wrap <;> simp only [cnt_facts hm, hc, pathSep, call0]

theorem cnt_projToks (k : Nat) (p : Proj) : cntToks s (projToks k p) = 0 := by
  cases p <;> simp only [projToks, indexLit, cnt_facts hm]

theorem cnt_printCapDef (d : CapDef) : cntToks s (printCapDef d) = cntToks s d.toks := by
  simp only [printCapDef, cnt_facts hm]

theorem cnt_spawnJoin (k : Nat) (ps : List Proj) :
    cntToks s (commaSep (ps.map fun p => projToks k p ++ call0 "join" ++ call0 "unwrap")) = 0 := by
  rw [cnt_commaSep]
  exact sumList_cnt_zero s _ _ fun p _ => by simp only [call0, cnt_facts hm, cnt_projToks hm]

omit hm in
/-- the joiner tokens of a step's join expression (user-given joiner or `path::join!`) -/
def formToks : JoinForm → Toks
  | .call j => j
  | .futJoin j _ => j
  | .tuple => []
  | .awaitCat => []

theorem cnt_printStep (sc : StepCode) :
    cntToks s (printStep sc) = stepCount s sc + cntToks s (formToks sc.form) := by
  have hf : ∀ (f : JoinForm) (es : List Toks), cntToks s (match f with
      | .call j => j ++ [paren (commaSep es)]
      | .futJoin j _ => j ++ [paren (commaSep es)]
      | .tuple => [paren (commaSep es)]
      | .awaitCat => es.flatten ++ awaitToks) = cntToks s (formToks f) + sumList (es.map (cntToks s)) := fun f es => by
    cases f <;> simp only [cnt_facts hm, awaitToks, formToks]
  have hj : ∀ (o : Option (List Proj)), cntToks s (match o with
      | none => []
      | some ps => [kw "let", (Var.sr sc.k).tok, pu '=',
          paren (commaSep (ps.map fun p => projToks sc.k p ++ call0 "join" ++ call0 "unwrap")), pu ';']) = 0 := fun o => by
    cases o <;> simp only [cnt_spawnJoin hm, cnt_facts hm]
  unfold printStep
  simp only [cnt_facts hm, cnt_flatMap, cnt_printCapDef hm, usizeLit,
    sumList_map_const_zero, stepCount, cntDefs, cntElems]
  -- the two `match`es of `printStep` and those written above are different constants with the same unfolding
  erw [hj, hf]
  simp only [List.map_map, Function.comp_def, cnt_printElem hm]
  omega

end

/-! ### what is asked of the other fields of the code: patterns, variables and path tokens carry no `s` -/

def VarsNe (s : String) (vs : List Var) : Prop := ∀ v ∈ vs, v.render ≠ s
def PatsZ (s : String) (ps : List PatV) : Prop := ∀ p ∈ ps, cntToks s p.toks = 0

def LinkOK (s : String) : Link → Prop
  | .plain pats => PatsZ s pats
  | .failCheck pats flags arms => PatsZ s pats ∧ VarsNe s flags ∧ VarsNe s (arms.map (·.2))
  | .matchOk _ pats => PatsZ s pats

def FinalOK (s : String) : Final → Prop
  | .tuple pats vars => PatsZ s pats ∧ VarsNe s vars
  | .transpose pats vars => PatsZ s pats ∧ VarsNe s vars
  | .matchOkTranspose pats results ret => PatsZ s pats ∧ VarsNe s results ∧ VarsNe s ret
  | .matchOkTuple pats vars => PatsZ s pats ∧ VarsNe s vars
  | .matchOkSingle => True

def StepsOK (s : String) : Steps → Prop
  | .last sc f => cntToks s (formToks sc.form) = 0 ∧ FinalOK s f
  | .cons sc l rest => cntToks s (formToks sc.form) = 0 ∧ LinkOK s l ∧ StepsOK s rest

def HandleOK (s : String) : Handle → Prop
  | .none => True
  | .thenH vs => VarsNe s vs
  | .mapH vs => VarsNe s vs
  | .andThenH vs => VarsNe s vs

def formCount (s : String) : Steps → Nat
  | .last sc _ => cntToks s (formToks sc.form)
  | .cons sc _ rest => cntToks s (formToks sc.form) + formCount s rest

/-- `StepsOK` without the condition on the joiner tokens -/
def LinksOK (s : String) : Steps → Prop
  | .last _ f => FinalOK s f
  | .cons _ l rest => LinkOK s l ∧ LinksOK s rest

theorem StepsOK.split {s : String} : ∀ {st : Steps}, StepsOK s st → LinksOK s st ∧ formCount s st = 0
  | .last _ _, h => ⟨h.2, h.1⟩
  | .cons _ _ _, h => ⟨⟨h.2.1, (split h.2.2).1⟩, by simp [formCount, h.1, (split h.2.2).2]⟩

section
variable {s : String} (hm : PMarker s)
include hm

theorem cnt_pats (pats : List PatV) (h : PatsZ s pats) : sumList ((pats.map (·.toks)).map (cntToks s)) = 0 :=
  sumList_cnt_zero s _ _ h

theorem cnt_printExtract (k : Nat) (pats : List PatV) (h : PatsZ s pats) : cntToks s (printExtract k pats) = 0 := by
  simp only [printExtract, cnt_facts hm, cnt_pats hm pats h]

omit hm in
theorem cnt_varsTuple (vars : List Var) (h : VarsNe s vars) : cntToks s (varsTuple vars) = 0 := by
  rw [varsTuple, cnt_commaSep]
  exact sumList_cnt_zero s _ _ fun v hv => by rw [cntToks_cons, cntTT_var s v (h v hv)]; rfl

theorem cnt_unreachable : cntToks s unreachableToks = 0 := by
  simp only [unreachableToks, cnt_facts hm]

theorem cnt_errArm : cntToks s errArm = 0 := by simp only [errArm, arrow, cnt_facts hm]

theorem cnt_transposer (ret : Toks) (hret : cntToks s ret = 0) :
    ∀ (vars : List Var), VarsNe s vars → cntToks s (transposerToks vars ret) = 0
  | [], _ => rfl
  | [x], h => by
    simp only [transposerToks, cnt_facts hm, cntTT_var s x (h x (List.mem_singleton_self x)), hret]
  | x :: y :: vs, h => by
    simp only [transposerToks, cnt_facts hm, cntTT_var s x (h x List.mem_cons_self),
      cnt_transposer ret hret (y :: vs) fun q hq => h q (List.mem_cons_of_mem _ hq)]

theorem cnt_matchOk (k : Nat) (bind : TT) (body : Toks) (hb : cntTT s bind = 0) :
    cntToks s (matchOkToks k bind body) = cntToks s body := by
  simp only [matchOkToks, arrow, cnt_facts hm, cnt_errArm hm, hb]

theorem cnt_printLink (k : Nat) (l : Link) (next : Toks) (h : LinkOK s l) :
    cntToks s (printLink k l next) = cntToks s next := by
  cases l with
  | plain pats => simp only [printLink, cnt_facts hm, cnt_printExtract hm k pats h]
  | failCheck pats flags arms =>
    obtain ⟨h1, h2, h3⟩ := h
    have hf := sumList_cnt_zero s flagToks flags fun v hv => by
      simp only [flagToks, call0, cnt_facts hm, cntTT_var s v (h2 v hv)]
    have ha := sumList_cnt_zero s armToks arms fun a ha => by
      simp only [armToks, usizeLit, arrow, cnt_facts hm, cnt_unreachable hm, cntTT_var s a.2 (h3 a.2 (List.mem_map_of_mem ha))]
    simp only [printLink, failIndex, call0, arrow, cnt_facts hm, cnt_printExtract hm k pats h1, hf, ha,
      cnt_unreachable hm]
  | matchOk rewrap pats =>
    have hx := cnt_printExtract hm k pats h
    cases rewrap with
    | none => simp only [printLink, cnt_matchOk hm k _ _ ((cnt_facts hm).2.2.1 k), cnt_facts hm, hx]
    | some ps =>
      have hps := sumList_cnt_zero s (fun p => [kw "Ok", paren (projToks k p)]) ps fun p _ => by
        simp only [cnt_facts hm, cnt_projToks hm]
      simp only [printLink, cnt_matchOk hm k _ _ ((cnt_facts hm).2.2.1 k), cnt_facts hm, hx, hps]

theorem cnt_printFinal (k : Nat) (f : Final) (h : FinalOK s f) : cntToks s (printFinal k f) = 0 := by
  have hsr := cntTT_ivar hm (.sr k) rfl
  have hv := cntTT_ivar hm .v rfl
  cases f with
  | tuple pats vars => simp only [printFinal, cnt_facts hm, cnt_printExtract hm k pats h.1, cnt_varsTuple vars h.2]
  | transpose pats vars =>
    simp only [printFinal, cnt_facts hm, cnt_printExtract hm k pats h.1,
      cnt_transposer hm _ (cnt_varsTuple vars h.2) vars h.2]
  | matchOkTranspose pats results ret =>
    simp only [printFinal, cnt_matchOk hm k _ _ hsr, cnt_facts hm, cnt_printExtract hm k pats h.1,
      cnt_transposer hm _ (cnt_varsTuple ret h.2.2) results h.2.1]
  | matchOkTuple pats vars =>
    simp only [printFinal, cnt_matchOk hm k _ _ hsr, cnt_facts hm, cnt_printExtract hm k pats h.1,
      cnt_varsTuple vars h.2]
  | matchOkSingle => simp only [printFinal, cnt_matchOk hm k _ _ hv, cnt_facts hm]

theorem cnt_printSteps_all : ∀ (st : Steps), LinksOK s st → cntToks s (printSteps st) = stepsCount s st + formCount s st
  | .last sc f, h => by
    simp only [printSteps, cnt_facts hm, cnt_printStep hm sc, cnt_printFinal hm sc.k f h, stepsCount, formCount]
  | .cons sc l rest, h => by
    simp only [printSteps, cnt_facts hm, cnt_printStep hm sc, cnt_printLink hm sc.k l _ h.1, stepsCount, formCount,
      cnt_printSteps_all rest h.2]
    omega

theorem cnt_printCall (vars : List Var) (h : VarsNe s vars) : cntToks s (printCall vars) = 0 := by
  simp only [printCall, cnt_facts hm, cnt_varsTuple vars h]

theorem cnt_printHandle (isAsync : Bool) (hd : Handle) (h : HandleOK s hd) : cntToks s (printHandle isAsync hd) = 0 := by
  cases hd with
  | none => simp only [printHandle, cnt_facts hm]
  | thenH vars | mapH vars | andThenH vars =>
    simp only [printHandle, awaitToks, apply_ite (cntToks s), cnt_facts hm, cnt_wrapIntoBlock hm.toMarker,
      cnt_printCall hm vars h, ite_self, Bool.false_eq_true]

theorem cnt_useFutures (fcp : Toks) (h : cntToks s fcp = 0) : cntToks s (useFutures fcp) = 0 := by
  simp only [useFutures, pathSep, cnt_facts hm, h]

theorem cnt_fnSpawnTokio (fcp : Toks) (h : cntToks s fcp = 0) : cntToks s (fnSpawnTokio fcp) = 0 := by
  simp only [fnSpawnTokio, pathSep, cnt_facts hm, h]

theorem cnt_printCode_all (c : Code) (hst : LinksOK s c.steps) (hh : HandleOK s c.handle) (hf : cntToks s (c.fcp.getD []) = 0) :
    cntToks s (printCode c) = stepsCount s c.steps + formCount s c.steps + cntToks s (c.handlerDef.getD []) := by
  unfold printCode
  cases c.handlerDef <;>
    simp only [apply_ite (cntToks s), pathSep, cnt_facts hm, cnt_printSteps_all hm c.steps hst,
      cnt_printHandle hm c.kind.isAsync c.handle hh, cnt_useFutures hm _ hf, cnt_fnSpawnTokio hm _ hf, hm.inspectFn, hm.tbFn,
      ite_self, Option.getD_none, Option.getD_some] <;> omega

theorem cnt_printCode (c : Code) (hst : StepsOK s c.steps) (hh : HandleOK s c.handle) (hf : cntToks s (c.fcp.getD []) = 0) :
    cntToks s (printCode c) = stepsCount s c.steps + cntToks s (c.handlerDef.getD []) := by
  rw [cnt_printCode_all hm c hst.split.1 hh hf, hst.split.2, Nat.add_zero]

end

/-! ### the code `gen` produces meets the side conditions -/

/-- The program's *other* user tokens (the `let` patterns, the joiner, the futures path) do not mention `s`: the theorem
    counts the operands' occurrences.  And `s` is none of the three words of the default join macro path. -/
structure OtherTokensFree (s : String) (p : Input) : Prop where
  pats : ∀ b ∈ p.branches, ∀ pt, b.pat = some pt → pt.ident ≠ s ∧ cntToks s pt.toks = 0
  joiner : cntToks s (p.joiner.getD []) = 0
  fcp : cntToks s (p.fcp.getD []) = 0
  notFutures : "futures" ≠ s
  notJoin : "join" ≠ s
  notTryJoin : "try_join" ≠ s

def PatsFree (s : String) (c : Ctx) : Prop := ∀ pv ∈ c.pats, cntToks s pv.toks = 0 ∧ pv.var.render ≠ s

def CtxFree (s : String) (c : Ctx) : Prop :=
  (∀ pv ∈ c.pats, cntToks s pv.toks = 0 ∧ pv.var.render ≠ s) ∧ cntToks s (c.joiner.getD []) = 0 ∧
  cntToks s (c.fcp.getD []) = 0

section
variable {s : String} (hm : PMarker s)
include hm

theorem mkCtx_free {p : Input} {kind : Kind} {c : Ctx} (h : mkCtx p kind = .ok c)
    (hpats : ∀ b ∈ p.branches, ∀ pt, b.pat = some pt → pt.ident ≠ s ∧ cntToks s pt.toks = 0)
    (hfcp : cntToks s (p.fcp.getD []) = 0) (hfut : "futures" ≠ s) :
    PatsFree s c ∧ cntToks s (c.fcp.getD []) = 0 := by
  refine ⟨(mkCtx_inv h).forall_pats (fun i => ⟨?_, hm.notInternal (.r i) rfl⟩) fun b hb pt hpt => (hpats b hb pt hpt).symm, ?_⟩
  · rw [cntToks_cons, cntTT_ivar hm (.r i) rfl]; rfl
  · rw [(mkCtx_inv h).fcp]
    cases hf' : p.fcp with
    | some f => rw [hf'] at hfcp; exact hfcp
    | none => cases kind.isAsync <;> simp [defaultFcp, cntTT_id s "futures" hfut]

omit hm in
theorem PatsFree.filter {c : Ctx} (hc : PatsFree s c) {p : PatV × Nat → Bool} {x : PatV × Nat}
    (hx : x ∈ c.pats.zipIdx.filter p) : cntToks s x.1.toks = 0 ∧ x.1.var.render ≠ s :=
  hc _ ((List.mem_zipIdx (List.mem_filter.mp hx).1).2.2 ▸ List.getElem_mem _)

omit hm in
theorem activePats_free (c : Ctx) (k : Nat) (hc : PatsFree s c) : PatsZ s (c.activePats k) ∧ VarsNe s (c.activeVars k) := by
  simp only [PatsZ, VarsNe, Ctx.activeVars, Ctx.activePats, List.forall_mem_map]
  exact ⟨fun x hx => (hc.filter hx).1, fun x hx => (hc.filter hx).2⟩

omit hm in
theorem genLink_ok (c : Ctx) (k : Nat) (hc : PatsFree s c) : LinkOK s (genLink c k) := by
  obtain ⟨h1, h2⟩ := activePats_free c k hc
  refine ite_intro (ite_intro ⟨h1, h2, fun v hv => ?_⟩ h1) h1
  simp only [Ctx.failArms, List.map_map, List.mem_map, Function.comp] at hv
  obtain ⟨⟨x, pos⟩, hx, rfl⟩ := hv
  exact h2 x ((List.mem_zipIdx hx).2.2 ▸ List.getElem_mem _)

omit hm in
theorem genFinal_ok (c : Ctx) (k : Nat) (hc : PatsFree s c) : FinalOK s (genFinal c k) :=
  have h1 := (activePats_free c k hc).1
  have hv : VarsNe s c.vars := List.forall_mem_map.mpr fun pv h => (hc pv h).2
  have hi : VarsNe s (c.inactiveVars k) := List.forall_mem_map.mpr fun _ hx => (hc.filter hx).2
  ite_intro ⟨h1, hv⟩ (ite_intro (ite_intro (ite_intro ⟨h1, hv⟩ ⟨h1, hi, hv⟩) trivial) ⟨h1, hv⟩)

omit hm in
theorem genSteps_links (c : Ctx) (hc : PatsFree s c) {rem k : Nat} {steps : Steps} (h : genSteps c rem k = .ok steps) :
    LinksOK s steps :=
  genSteps_induct (fun k _ _ => genFinal_ok c k hc)
    (fun _ k _ _ _ _ ih => ⟨genLink_ok c k hc, ih⟩) h

theorem genHandle_ok (c : Ctx) (h : Option (HKind × Toks)) : HandleOK s (genHandle c h) := by
  have hr : VarsNe s ((List.range c.n).map Var.r) := List.forall_mem_map.mpr fun i _ => hm.notInternal (.r i) rfl
  unfold genHandle
  split <;> first | trivial | exact hr

/-- the custom joiner or the path of `join!`/`try_join!` where more than one branch is active, else nothing -/
def joinToks (c : Ctx) (k : Nat) : Toks := formToks (stepForm c k)

omit hm in
theorem genSteps_formCount (c : Ctx) {rem k : Nat} {steps : Steps} (h : genSteps c rem k = .ok steps) :
    formCount s steps = sumR (fun i => cntToks s (joinToks c i)) k (rem + 1) :=
  genSteps_induct
    (fun k sc hs => by simp [formCount, sumR, joinToks, (genStep_inv hs).2.2.1])
    (fun rem k sc rest hs _ ih => by simp [formCount, joinToks, (genStep_inv hs).2.2.1, ih]; rfl) h

theorem expansion_count_all (p : Input) (kind : Kind) (code : Code) (c : Ctx) (hc : mkCtx p kind = .ok c)
    (h : gen p kind = .ok code) (hinit : InitialOnlyFirst p)
    (hpats : ∀ b ∈ p.branches, ∀ pt, b.pat = some pt → pt.ident ≠ s ∧ cntToks s pt.toks = 0)
    (hfcp : cntToks s (p.fcp.getD []) = 0) (hfut : "futures" ≠ s) :
    cntToks s (printCode code) = cntProgram s p + sumR (fun i => cntToks s (joinToks c i)) 0 c.maxSteps +
      cntToks s ((p.handler.map (·.2)).getD []) := by
  have hcount := gen_count hm.toMarker p kind code h hinit (fun b hb pt hpt => (hpats b hb pt hpt).1)
  obtain ⟨c', steps, hc', hmax, hsteps, rfl⟩ := gen_inv h
  cases hc.symm.trans hc'
  obtain ⟨hp, hf⟩ := mkCtx_free hm hc hpats hfcp hfut
  rw [cnt_printCode_all hm _ (genSteps_links c hp hsteps) (genHandle_ok hm c p.handler) hf, genSteps_formCount c hsteps,
    ← hcount, Nat.sub_add_cancel (Nat.pos_of_ne_zero hmax)]

omit hm in
theorem joinToks_free (c : Ctx) (k : Nat) (hj : cntToks s (c.joiner.getD []) = 0) (hf : cntToks s (c.fcp.getD []) = 0)
    (hjn : "join" ≠ s) (htj : "try_join" ≠ s) : cntToks s (joinToks c k) = 0 := by
  have hi {c : Prop} [Decidable c] {a b : JoinForm} :=
    ite_intro (P := fun f => cntToks s (formToks f) = 0) (c := c) (a := a) (b := b)
  refine hi ?_ (hi rfl rfl)
  cases hjo : c.joiner with
  | some j => rw [hjo] at hj; exact hj
  | none =>
    refine hi ?_ rfl
    have hw : cntTT s (id' (if c.kind.isTry then "try_join" else "join")) = 0 :=
      ite_intro (P := fun w => cntTT s (id' w) = 0) (cntTT_id s _ htj) (cntTT_id s _ hjn)
    simp only [formToks, cntToks_append, cntToks_cons, cntToks_nil, cntTT_pj, cntTT_pu, hf, hw]

theorem genSteps_ok (c : Ctx) (hc : CtxFree s c) (hj : "join" ≠ s) (htj : "try_join" ≠ s) :
    ∀ (rem k : Nat) (steps : Steps), genSteps c rem k = .ok steps → StepsOK s steps := fun _ _ _ h =>
  have hform : ∀ {k sc}, genStep c k = .ok sc → cntToks s (formToks sc.form) = 0 := fun {k _} hs =>
    (genStep_inv hs).2.2.1 ▸ joinToks_free c k hc.2.1 hc.2.2 hj htj
  genSteps_induct (fun k _ hs => ⟨hform hs, genFinal_ok c k hc.1⟩)
    (fun _ k _ _ hs _ ih => ⟨hform hs, genLink_ok c k hc.1, ih⟩) h

theorem expansion_count (p : Input) (kind : Kind) (code : Code) (h : gen p kind = .ok code) (hinit : InitialOnlyFirst p)
    (ho : OtherTokensFree s p) :
    cntToks s (printCode code) = cntProgram s p + cntToks s ((p.handler.map (·.2)).getD []) := by
  obtain ⟨c, _, hc, -⟩ := gen_inv h
  have hj := (mkCtx_inv hc).joiner
  have hz : (fun i => cntToks s (joinToks c i)) = fun _ => 0 := funext fun i =>
    joinToks_free c i (hj ▸ ho.joiner) (mkCtx_free hm hc ho.pats ho.fcp ho.notFutures).2 ho.notJoin ho.notTryJoin
  rw [expansion_count_all hm p kind code c hc h hinit ho.pats ho.fcp ho.notFutures, hz, sumR_zero, Nat.add_zero]

theorem joiner_count (p : Input) (kind : Kind) (code : Code) (c : Ctx) (j : Toks) (hc : mkCtx p kind = .ok c)
    (h : gen p kind = .ok code) (hinit : InitialOnlyFirst p) (hj : p.joiner = some j)
    (hpats : ∀ b ∈ p.branches, ∀ pt, b.pat = some pt → pt.ident ≠ s ∧ cntToks s pt.toks = 0)
    (hfcp : cntToks s (p.fcp.getD []) = 0) (hfut : "futures" ≠ s)
    (hops : cntProgram s p = 0) (hhd : cntToks s ((p.handler.map (·.2)).getD []) = 0) :
    cntToks s (printCode code) =
      sumR (fun i => if c.activeCount i > 1 then cntToks s j else 0) 0 c.maxSteps := by
  have hcj : c.joiner = some j := (mkCtx_inv hc).joiner.trans hj
  rw [expansion_count_all hm p kind code c hc h hinit hpats hfcp hfut, hops, hhd, Nat.zero_add, Nat.add_zero]
  congr 1
  funext i
  unfold joinToks stepForm
  by_cases h1 : c.activeCount i > 1
  · simp [h1, hcj, formToks]
  · cases c.kind.isAsync <;> simp [h1, formToks]

end
end JoinModel
