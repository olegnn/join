/-
  The model's comparison of token trees (`TT.beq`, the `==` of `Tok.lean`) is equality.  `TT` is a nested inductive type
  without a derived `DecidableEq`; with `LawfulBEq TT`, core's `instDecidableEqOfLawfulBEq` decides equations between
  token lists, which lets the kernel evaluate test vectors that mention tokens.
-/
import JoinModel.Tok
namespace JoinModel

mutual
  theorem TT.eq_of_beq : ∀ {a b : TT}, TT.beq a b = true → a = b
    | .ident _, .ident _, h => by simp only [TT.beq, beq_iff_eq] at h; rw [h]
    | .punct _ _, .punct _ _, h => by simp only [TT.beq, Bool.and_eq_true, beq_iff_eq] at h; rw [h.1, h.2]
    | .lit _, .lit _, h => by simp only [TT.beq, beq_iff_eq] at h; rw [h]
    | .group _ _, .group _ _, h => by
      simp only [TT.beq, Bool.and_eq_true, beq_iff_eq] at h; rw [h.1, TT.eqList_of_beq h.2]
    | .ident _, .punct _ _, h | .ident _, .lit _, h | .ident _, .group _ _, h
    | .punct _ _, .ident _, h | .punct _ _, .lit _, h | .punct _ _, .group _ _, h
    | .lit _, .ident _, h | .lit _, .punct _ _, h | .lit _, .group _ _, h
    | .group _ _, .ident _, h | .group _ _, .punct _ _, h | .group _ _, .lit _, h => by simp [TT.beq] at h
  theorem TT.eqList_of_beq : ∀ {a b : List TT}, TT.beqList a b = true → a = b
    | [], [], _ => rfl
    | _ :: _, _ :: _, h => by
      simp only [TT.beqList, Bool.and_eq_true] at h; rw [TT.eq_of_beq h.1, TT.eqList_of_beq h.2]
    | [], _ :: _, h | _ :: _, [], h => by simp [TT.beqList] at h
end

mutual
  theorem TT.beq_self : ∀ a : TT, TT.beq a a = true
    | .ident _ | .lit _ | .punct _ _ => by simp [TT.beq]
    | .group _ ts => by simp [TT.beq, TT.beqList_self ts]
  theorem TT.beqList_self : ∀ a : List TT, TT.beqList a a = true
    | [] => rfl
    | t :: ts => by simp [TT.beqList, TT.beq_self t, TT.beqList_self ts]
end

instance : LawfulBEq TT where
  eq_of_beq := TT.eq_of_beq
  rfl := TT.beq_self _

end JoinModel
