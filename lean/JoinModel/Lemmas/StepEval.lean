/-
  One step of the generated code (Sem) against one step of the reference loop (Spec): the definitions of a step against
  the block captures (`evalDefs_all`), the lookups of the captured values, an operand of the join expression against
  the chain of its branch (`evalElem_eq`, `map_evalElem`), the joins of the branch threads (`evalJoins_spec`).
-/
import JoinModel.Lemmas.Caps
import JoinModel.Lemmas.SpecFacts
namespace JoinModel

def CapDef.var (d : CapDef) : Var := .ew d.b d.e d.i

theorem evalDefs_eq (cfg : EvalCfg) (sc : SpecCfg) (hσ : sc.σ = cfg.σ) (k b : Nat) (ds : List CapDef)
    (hb : ∀ d ∈ ds, d.b = b) (env : Env) :
    evalDefs cfg k ds env =
      (specCapsBranch sc k b (visible cfg.names env) (ds.map fun d => (d.e, d.i))).andThen fun vs =>
        M.ret (((ds.map CapDef.var).zip vs).reverse ++ env) := by
  induction ds generalizing env with
  | nil => simp [evalDefs, specCapsBranch]
  | cons d ds ih =>
    have hdb : d.b = b := hb d (by simp)
    have hrest : ∀ d' ∈ ds, d'.b = b := fun d' hd' => hb d' (by simp [hd'])
    simp only [evalDefs, List.map_cons, specCapsBranch, M.andThen_assoc, hdb, hσ]
    congr 1
    funext _
    congr 1
    funext v
    rw [ih hrest]
    have hv : visible cfg.names ((Var.ew b d.e d.i, v) :: env) = visible cfg.names env :=
      visible_cons_internal _ _ _ _ rfl
    rw [hv]
    congr 1
    funext vs
    simp [CapDef.var, hdb, List.reverse_cons, List.append_assoc]

theorem evalDefs_append (cfg : EvalCfg) (k : Nat) (ds₁ ds₂ : List CapDef) (env : Env) :
    evalDefs cfg k (ds₁ ++ ds₂) env = (evalDefs cfg k ds₁ env).andThen fun env' => evalDefs cfg k ds₂ env' := by
  induction ds₁ generalizing env with
  | nil => simp [evalDefs]
  | cons d ds ih =>
    simp only [List.cons_append, evalDefs, M.andThen_assoc]
    congr 1
    funext _
    congr 1
    funext v
    exact ih _

/-- environment entries made by the captures of the branches `bs` (newest first) -/
def capEnv (acts : Nat → List Member) : List Nat → List (List Value) → Env
  | b :: bs, caps :: capss => capEnv acts bs capss ++ ((capVars b (acts b)).zip caps).reverse
  | _, _ => []

theorem capVars_b (b : Nat) (acts : List Member) : ∀ x ∈ capVars b acts, ∃ e i, x = .ew b e i := by
  intro x hx
  simp only [capVars, List.mem_map] at hx
  obtain ⟨d, hd, rfl⟩ := hx
  exact ⟨d.e, d.i, by rw [(mem_capDefsOf hd).1]⟩

theorem capEnv_keys (acts : Nat → List Member) (bs : List Nat) (capss : List (List Value)) :
    ∀ xv ∈ capEnv acts bs capss, ∃ b ∈ bs, ∃ e i, xv.1 = .ew b e i := by
  induction bs generalizing capss with
  | nil => simp [capEnv]
  | cons b bs ih =>
    cases capss with
    | nil => simp [capEnv]
    | cons caps capss =>
      intro xv hxv
      simp only [capEnv, List.mem_append, List.mem_reverse] at hxv
      rcases hxv with h | h
      · obtain ⟨b', hb', r⟩ := ih capss xv h
        exact ⟨b', by simp [hb'], r⟩
      · obtain ⟨e, i, hx⟩ := capVars_b b (acts b) xv.1 (List.of_mem_zip h).1
        exact ⟨b, by simp, e, i, hx⟩

theorem capEnv_scratch (acts : Nat → List Member) (bs : List Nat) (capss : List (List Value)) :
    ∀ xv ∈ capEnv acts bs capss, xv.1.isScratch = true := by
  intro xv hxv
  obtain ⟨b, _, e, i, h⟩ := capEnv_keys acts bs capss xv hxv
  rw [h]; rfl

theorem capEnv_internal (acts : Nat → List Member) (bs : List Nat) (capss : List (List Value)) :
    ∀ xv ∈ capEnv acts bs capss, xv.1.isInternal = true :=
  fun xv hxv => Var.internal_of_scratch (capEnv_scratch acts bs capss xv hxv)

theorem evalDefs_all (cfg : EvalCfg) (sc : SpecCfg) (hσ : sc.σ = cfg.σ) (k : Nat) (acts : Nat → List Member)
    (hacts : ∀ b, sc.acts b k = acts b) (bs : List Nat) (env : Env) :
    evalDefs cfg k (bs.flatMap fun b => capDefsOf b (acts b) 0) env =
      (specCapsAll sc k (visible cfg.names env) bs).andThen fun capss =>
        M.ret (capEnv acts bs capss ++ env) := by
  induction bs generalizing env with
  | nil => simp [evalDefs, specCapsAll, capEnv]
  | cons b bs ih =>
    simp only [List.flatMap_cons, evalDefs_append, specCapsAll, M.andThen_assoc]
    rw [evalDefs_eq cfg sc hσ k b _ (fun _ hd => (mem_capDefsOf hd).1) env]
    simp only [M.andThen_assoc, M.ret_andThen]
    have hk : (capDefsOf b (acts b) 0).map (fun d => (d.e, d.i)) = capKeys (sc.acts b k) := by
      rw [hacts b, capKeys]; exact capDefsOf_keys b 0 (acts b) 0
    rw [hk]
    congr 1
    funext vs
    rw [ih]
    rw [visible_append_internal _ (((capDefsOf b (acts b) 0).map CapDef.var).zip vs).reverse _
      (capEnv_internal acts [b] [vs])]
    congr 1
    funext capss
    simp only [capEnv, capVars, List.append_assoc]
    rfl

/-! ### looking the captured values up again -/

theorem lookup_reverse_zip (ks : List Var) (vs : List Value) (hl : ks.length = vs.length) (hnd : ks.Nodup)
    (env : Env) (i : Nat) (hi : i < ks.length) :
    ((ks.zip vs).reverse ++ env).lookup ks[i] = some (vs[i]'(hl ▸ hi)) := by
  rw [List.lookup_append, lookup_of_mem_nodup (v := vs[i]'(hl ▸ hi))]
  · rfl
  · rw [List.map_reverse, List.map_fst_zip (Nat.le_of_eq hl)]
    exact List.pairwise_reverse.mpr (hnd.imp Ne.symm)
  · exact List.mem_reverse.mpr (List.mem_iff_getElem.mpr ⟨i, by simp [hi, ← hl], List.getElem_zip⟩)

theorem capVars_nodup (b : Nat) (acts : List Member) : (capVars b acts).Nodup :=
  List.pairwise_map.mpr ((List.pairwise_map.mp (capDefsOf_keys_nodup b acts 0)).imp fun h heq => h (by
    simp only [Var.ew.injEq] at heq
    rw [heq.2.1, heq.2.2]))

theorem lookupAll_capEnv (acts : Nat → List Member) (bs : List Nat) (capss : List (List Value)) (env : Env)
    (hnd : bs.Nodup) (hl : bs.length = capss.length)
    (hlen : ∀ pos (h1 : pos < bs.length), (capVars bs[pos] (acts bs[pos])).length = (capss[pos]'(hl ▸ h1)).length)
    (pos : Nat) (hpos : pos < bs.length) :
    lookupAll (capEnv acts bs capss ++ env) (capVars bs[pos] (acts bs[pos])) = some (capss[pos]'(hl ▸ hpos)) := by
  -- `capEnv` puts the head branch's entries behind those of the tail: for the tail they belong to `env`, hence generalised
  induction bs generalizing capss env pos with
  | nil => simp at hpos
  | cons b bs ih =>
    cases capss with
    | nil => simp at hl
    | cons caps capss =>
      have hnd' := List.nodup_cons.mp hnd
      simp only [capEnv, List.append_assoc]
      cases pos with
      | zero =>
        simp only [List.getElem_cons_zero]
        have hl0 : (capVars b (acts b)).length = caps.length := hlen 0 (by simp)
        apply lookupAll_of_forall _ _ _ hl0
        intro i hi
        -- in front lie the entries of the later branches: a capture name carries its branch number, and `b ∉ bs` (`hnd`)
        have hnone : (capEnv acts bs capss).lookup (capVars b (acts b))[i] = none := by
          apply lookup_eq_none_of_not_mem
          intro hmem
          simp only [List.mem_map] at hmem
          obtain ⟨xv, hxv, hx⟩ := hmem
          obtain ⟨b', hb', e', i', hx'⟩ := capEnv_keys acts bs capss xv hxv
          obtain ⟨e, i2, hx2⟩ := capVars_b b (acts b) _ (List.getElem_mem hi)
          rw [← hx, hx'] at hx2
          simp only [Var.ew.injEq] at hx2
          exact hnd'.1 (hx2.1 ▸ hb')
        rw [List.lookup_append, hnone]
        simp only [Option.none_or]
        exact lookup_reverse_zip _ _ hl0 (capVars_nodup b (acts b)) env i hi
      | succ pos =>
        simp only [List.getElem_cons_succ]
        exact ih capss _ hnd'.2 (by simpa using hl)
          (fun p hp => hlen (p + 1) (by simp; omega)) pos (by simpa using hpos)

/-! ### the operands of a join expression -/

def handleOf (o : ChainOut) : Value :=
  match o.res with
  | .ok v => .handleOk v
  | _ => .handlePanic

def forkM (sc : SpecCfg) (k : Nat) (vals : List (Option Value)) (vis : List (String × Value)) (bc : Nat × List Value) :
    M Value :=
  ⟨[.fork bc.1 k (threadName sc.parent bc.1) (chainEvents bc.1 k (sc.σ.chain bc.1 k (specPrev sc vals bc.1 k) bc.2 vis))],
    .ok (handleOf (sc.σ.chain bc.1 k (specPrev sc vals bc.1 k) bc.2 vis))⟩

theorem evalElem_eq (cfg : EvalCfg) (sc : SpecCfg) (hσ : sc.σ = cfg.σ) (hpar : sc.parent = cfg.parent) (k : Nat)
    (vals : List (Option Value)) (env : Env) (e : Elem) (b : Nat) (x : Var) (caps : List Value) (lazy : Bool)
    (w : ElemWrap) (he : e.sem = (b, lazy, w, x, sc.acts b k))
    (hprev : usesPrev (sc.acts b k) = true → ∃ v, env.lookup x = some v ∧ (vals[b]?).join = some v)
    (hcaps : lookupAll env (capVars b (sc.acts b k)) = some caps) :
    (lazy = false → w = .plain ∨ w = .tokio → evalElem cfg k env e = chainM sc k vals (visible cfg.names env) (b, caps)) ∧
    (lazy = true → w = .thread b → env.lookup (.j b) = some (.builder b) →
      evalElem cfg k env e = forkM sc k vals (visible cfg.names env) (b, caps)) := by
  simp only [Elem.sem, Prod.mk.injEq] at he
  obtain ⟨h1, h2, h3, h4, h5⟩ := he
  have hp : (if usesPrev (sc.acts b k) then (env.lookup x).map some else some none) = some (specPrev sc vals b k) := by
    unfold specPrev
    by_cases hu : usesPrev (sc.acts b k) = true
    · obtain ⟨v, hv1, hv2⟩ := hprev hu
      simp [hu, hv1, hv2]
    · simp [hu]
  unfold evalElem
  simp only [h1, h2, h3, h4, h5, hp, hcaps]
  refine ⟨fun hl hw => ?_, fun hl hw hj => ?_⟩
  · subst hl
    rcases hw with rfl | rfl <;> simp only [chainM, hσ]
  · subst hl hw
    simp only [hj, forkM, hσ, hpar, handleOf]
    cases (cfg.σ.chain b k (specPrev sc vals b k) caps (visible cfg.names env)).res <;> rfl

theorem map_evalElem (cfg : EvalCfg) (sc : SpecCfg) (hσ : sc.σ = cfg.σ) (hpar : sc.parent = cfg.parent) (k : Nat)
    (vals : List (Option Value)) (env : Env) (varOf : Nat → Var) (bs : List Nat) (capss : List (List Value))
    (elems : List Elem) (lazy : Bool) (wrap : Nat → ElemWrap)
    (hel : elems.map Elem.sem = bs.map (fun b => (b, lazy, wrap b, varOf b, sc.acts b k)))
    (hprev : ∀ b ∈ bs, usesPrev (sc.acts b k) = true →
      ∃ v, env.lookup (varOf b) = some v ∧ (vals[b]?).join = some v)
    (hl : bs.length = capss.length)
    (hcaps : ∀ pos (h : pos < bs.length),
      lookupAll env (capVars bs[pos] (sc.acts bs[pos] k)) = some (capss[pos]'(hl ▸ h))) :
    (lazy = false → (∀ b, wrap b = .plain ∨ wrap b = .tokio) →
      elems.map (evalElem cfg k env) = (bs.zip capss).map (chainM sc k vals (visible cfg.names env))) ∧
    (lazy = true → (∀ b, wrap b = .thread b) → (∀ b ∈ bs, env.lookup (.j b) = some (.builder b)) →
      elems.map (evalElem cfg k env) = (bs.zip capss).map (forkM sc k vals (visible cfg.names env))) := by
  have hlen : elems.length = bs.length := by simpa using congrArg List.length hel
  have hone : ∀ i (hi : i < bs.length), _ :=
    fun i hi => evalElem_eq cfg sc hσ hpar k vals env (elems[i]'(hlen ▸ hi)) bs[i] (varOf bs[i]) (capss[i]'(hl ▸ hi))
      lazy (wrap bs[i]) (by simpa [hi, hlen] using congrArg (·[i]?) hel) (hprev _ (List.getElem_mem hi)) (hcaps i hi)
  refine ⟨fun h1 h2 => ?_, fun h1 h2 h3 => ?_⟩ <;>
    refine List.ext_getElem (by simp [hlen, hl]) fun i hi _ => ?_ <;>
    have hi' : i < bs.length := by simpa [hlen] using hi
  · simpa using (hone i hi').1 h1 (h2 _)
  · simpa using (hone i hi').2 h1 (h2 _) (h3 _ (List.getElem_mem hi'))

theorem forkOuts_fst (sc : SpecCfg) (k : Nat) (vals : List (Option Value)) (vis : List (String × Value))
    (bcs : List (Nat × List Value)) : (forkOuts sc k vals vis bcs).map Prod.fst = bcs.map Prod.fst := by
  rw [forkOuts, List.map_map]; rfl

theorem seq_forkM (sc : SpecCfg) (k : Nat) (vals : List (Option Value)) (vis : List (String × Value))
    (bcs : List (Nat × List Value)) :
    M.seq (bcs.map (forkM sc k vals vis)) =
      (M.tell ((forkOuts sc k vals vis bcs).map fun (b, o) => .fork b k (threadName sc.parent b) (chainEvents b k o))).andThen
        fun _ => M.ret ((forkOuts sc k vals vis bcs).map fun bo => handleOf bo.2) := by
  induction bcs with
  | nil => rfl
  | cons bc bcs ih => simp [M.seq, ih, forkM, forkOuts, M.andThen, M.ret, M.tell]

theorem mkTuple_of_two_le (vs : List Value) (h : 2 ≤ vs.length) : mkTuple vs = .tup (spine vs) := by
  match vs with
  | [] => simp at h
  | [_] => simp at h
  | _ :: _ :: _ => rfl

theorem evalJoins_cons_ok (k : Nat) (sr : Value) (b : Nat) (bs : List Nat) (p : Proj) (ps : List Proj) (v : Value)
    (h : projVal p sr = some (.handleOk v)) :
    evalJoins k sr (b :: bs) (p :: ps) =
      (M.tell [.join b k]).andThen fun _ => (evalJoins k sr bs ps).andThen fun vs => M.ret (v :: vs) := by
  conv => lhs; unfold evalJoins
  simp only [h]

theorem evalJoins_cons_panic (k : Nat) (sr : Value) (b : Nat) (bs : List Nat) (p : Proj) (ps : List Proj)
    (h : projVal p sr = some .handlePanic) :
    evalJoins k sr (b :: bs) (p :: ps) =
      (M.tell [.join b k]).andThen fun _ => M.lift (.panic (.joinUnwrap b k)) := by
  conv => lhs; unfold evalJoins
  simp only [h]

/-- Stated for the suffix `all.drop i0` with the absolute projections `i0, i0 + 1, …`: the induction runs over the offset.
    `2 ≤ hs.length`: `mkTuple [v] = v`, on which an index projection is stuck. -/
theorem evalJoins_spec (k : Nat) (hs : List Value) (h2 : 2 ≤ hs.length) (all : List (Nat × ChainOut))
    (hh : hs = all.map fun bo => handleOf bo.2) (i0 : Nat) :
    evalJoins k (mkTuple hs) ((all.drop i0).map Prod.fst) ((List.range' i0 (all.length - i0)).map Proj.idx)
      = specJoins k (all.drop i0) := by
  generalize hn : all.length - i0 = n
  induction n generalizing i0 with
  | zero =>
    have : all.drop i0 = [] := List.drop_eq_nil_of_le (by omega)
    simp [this, evalJoins, specJoins]
  | succ n ih =>
    have hi : i0 < all.length := by omega
    have hd : all.drop i0 = all[i0] :: all.drop (i0 + 1) := (List.drop_eq_getElem_cons hi)
    rw [hd]
    simp only [List.map_cons, List.range'_succ]
    have hproj : projVal (.idx i0) (mkTuple hs) = some (handleOf all[i0].2) := by
      rw [mkTuple_of_two_le hs h2]
      simp [projVal, hh, hi]
    have hrec := ih (i0 + 1) (by omega)
    rw [specJoins]
    cases hr : all[i0].2.res with
    | ok v =>
      have : projVal (.idx i0) (mkTuple hs) = some (.handleOk v) := by rw [hproj, handleOf, hr]
      rw [evalJoins_cons_ok _ _ _ _ _ _ v this, hrec]
    | panic n =>
      have : projVal (.idx i0) (mkTuple hs) = some .handlePanic := by rw [hproj, handleOf, hr]
      rw [evalJoins_cons_panic _ _ _ _ _ _ this]

end JoinModel
