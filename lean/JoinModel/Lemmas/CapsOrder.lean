/-
  Order of the hoisted definitions of a generated step: ascending in (branch, position of the action in its step, operand
  index) — the order in which `let __ew{b}_{e}_{i} = {…};` are written, hence evaluated.  Used by Props/C11.
-/
import JoinModel.Lemmas.Caps
import JoinModel.Refinement
namespace JoinModel

def lex3 (a b : Nat × Nat × Nat) : Prop := a.1 < b.1 ∨ (a.1 = b.1 ∧ lex2 a.2 b.2)

theorem flatMap_capDefs_sorted : ∀ (l : List (List Member × Nat)), (l.map (·.2)).Pairwise (· < ·) →
    ((l.flatMap fun ab => capDefsOf ab.2 ab.1 0).map fun d => (d.b, d.e, d.i)).Pairwise lex3 := by
  intro l
  induction l with
  | nil => intro _; simp
  | cons ab l ih =>
    intro hp
    rw [List.map_cons, List.pairwise_cons] at hp
    simp only [List.flatMap_cons, List.map_append]
    refine List.pairwise_append.mpr ⟨?_, ih hp.2, ?_⟩
    · have hs := capDefsOf_sorted ab.2 ab.1 0
      rw [List.pairwise_map] at hs ⊢
      exact hs.imp_of_mem fun hd hd' h => Or.inr ⟨by rw [(mem_capDefsOf hd).1, (mem_capDefsOf hd').1], h⟩
    · intro x hx y hy
      obtain ⟨d, hd, rfl⟩ := List.mem_map.mp hx
      obtain ⟨d', hd', rfl⟩ := List.mem_map.mp hy
      obtain ⟨ab', hab', hd''⟩ := List.mem_flatMap.mp hd'
      exact Or.inl (by rw [(mem_capDefsOf hd).1, (mem_capDefsOf hd'').1]; exact hp.1 ab'.2 (List.mem_map.mpr ⟨ab', hab', rfl⟩))

theorem genStep_defs_sorted_all {c : Ctx} {k : Nat} {s : StepCode} (h : genStep c k = .ok s) :
    (s.defs.map fun d => (d.b, d.e, d.i)).Pairwise lex3 := by
  rw [(genElems_spec c k _ 0 _ _ (genStep_inv h).1).1]
  exact flatMap_capDefs_sorted _ (by rw [List.zipIdx_map_snd]; exact List.pairwise_lt_range')

theorem genStep_defs_sorted {p : Input} {kind : Kind} (hs : SupportedBase p) {c : Ctx} (hc : mkCtx p kind = .ok c)
    (k : Nat) (s : StepCode) (h : genStep c k = .ok s) :
    (s.defs.map fun d => (d.b, d.e, d.i)).Pairwise lex3 := genStep_defs_sorted_all h

end JoinModel
