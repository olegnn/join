/-
  Order of events in the reference loop: steps never interleave on the calling thread, and inside a step
  every block capture precedes every chain; result positions.
-/
import JoinModel.Lemmas.TryFacts
namespace JoinModel

/-- position of an event in the program order of the steps: captures of step k, then chains of step k -/
def MEv.key (e : MEv) : Option Nat := e.step.map fun k => 2 * k + (if e.isCap then 0 else 1)

def keysOf (t : List MEv) : List Nat := t.filterMap MEv.key

theorem keysOf_append (a b : List MEv) : keysOf (a ++ b) = keysOf a ++ keysOf b := by simp [keysOf]

def SortedFrom (k : Nat) (l : List Nat) : Prop := l.Pairwise (· ≤ ·) ∧ ∀ x ∈ l, k ≤ x

theorem SortedFrom.nil (k : Nat) : SortedFrom k [] := ⟨List.Pairwise.nil, fun _ h => nomatch h⟩

theorem SortedFrom.const_append {k k' : Nat} {a b : List Nat} (ha : ∀ x ∈ a, x = k) (hk : k ≤ k')
    (hb : SortedFrom k' b) : SortedFrom k (a ++ b) := by
  refine ⟨List.pairwise_append.mpr ⟨?_, hb.1, fun x hx y hy => ?_⟩, fun x hx => ?_⟩
  · exact List.pairwise_of_forall_mem_list fun x hx y hy => Nat.le_of_eq ((ha x hx).trans (ha y hy).symm)
  · exact ha x hx ▸ Nat.le_trans hk (hb.2 y hy)
  · exact (List.mem_append.mp hx).elim (fun h => Nat.le_of_eq (ha x h).symm) fun h => Nat.le_trans hk (hb.2 x h)

theorem SortedFrom.const {k : Nat} {a : List Nat} (ha : ∀ x ∈ a, x = k) : SortedFrom k a := by
  simpa using SortedFrom.const_append ha (Nat.le_refl k) (SortedFrom.nil k)

theorem specStep_keys (sc : SpecCfg) (k : Nat) (vals : List (Option Value)) {tl : List Nat}
    (htl : SortedFrom (2 * (k + 1)) tl) : SortedFrom (2 * k) (keysOf (specStep sc k vals).trace ++ tl) := by
  have hcaps : ∀ x ∈ keysOf (specCapsAll sc k (visibleSpec sc.names vals) (sc.active k)).trace, x = 2 * k :=
    filterMap_const fun e he => by
      obtain ⟨h1, h2⟩ := specCapsAll_step sc k _ _ e he
      simp [MEv.key, h1, h2]
  have hchains : ∀ caps, ∀ x ∈ keysOf (specChains sc k vals (visibleSpec sc.names vals) (sc.active k) caps).trace,
      x = 2 * k + 1 := fun caps =>
    filterMap_const fun e he => by
      obtain ⟨h1, h2⟩ := specChains_step sc k vals _ _ caps e he
      simp [MEv.key, h1, h2]
  rw [specStep]
  rcases M.andThen_cases (specCapsAll sc k (visibleSpec sc.names vals) (sc.active k))
    (specChains sc k vals (visibleSpec sc.names vals) (sc.active k)) with ⟨caps, -, ht, -⟩ | ⟨-, ht, -⟩ <;> rw [ht]
  · rw [keysOf_append, List.append_assoc]
    exact SortedFrom.const_append hcaps (Nat.le_succ _) (SortedFrom.const_append (hchains caps) (by omega) htl)
  · exact SortedFrom.const_append hcaps (by omega) htl

theorem specLoop_sorted (sc : SpecCfg) (rem k : Nat) (vals : List (Option Value)) :
    (keysOf (specLoop sc rem k vals).trace).Pairwise (· ≤ ·) := by
  refine (specLoop_trace_induct sc (Q := fun _ k t => SortedFrom (2 * k) (keysOf t)) ?_ ?_ rem k vals).1
  · intro _ k vals
    simpa using specStep_keys sc k vals (SortedFrom.nil _)
  · intro _ k vals _ tl _ ih
    rw [keysOf_append]
    exact specStep_keys sc k vals ih

/-- Non-try loop started at step `k`: position `i` of the result is branch `i`'s current value when the branch has finished,
    otherwise the value the chain of its own last step returned. -/
theorem specLoop_positions (sc : SpecCfg) (hnt : sc.kind.isTry = false) (rem k : Nat) (vals : List (Option Value))
    (hlen : vals.length = sc.n) (hdep : ∀ i, sc.depth i ≤ k + rem + 1) (vs : List Value)
    (h : (specLoop sc rem k vals).res = .ok (.vals vs)) (i : Nat) (hi : i < sc.n) :
    (sc.depth i ≤ k → (vals[i]?).join = vs[i]?) ∧
    (k < sc.depth i → ∃ v, vs[i]? = some v ∧ (i, sc.depth i - 1, v) ∈ chainEnds (specLoop sc rem k vals).trace) := by
  have hna : ∀ {k}, sc.depth i ≤ k → i ∉ sc.active k := fun hd hm => Nat.not_lt.mpr hd (mem_active.mp hm).2
  -- `depth i ≤ k + rem + 1`: the loop ends with the deepest branch, so a branch active in its last step is in its own last step
  refine specLoop_ok_induct sc (Q := fun rem k vals t f => vals.length = sc.n → sc.depth i ≤ k + rem + 1 →
    ∀ vs, f = .vals vs → (sc.depth i ≤ k → (vals[i]?).join = vs[i]?) ∧
      (k < sc.depth i → ∃ v, vs[i]? = some v ∧ (i, sc.depth i - 1, v) ∈ chainEnds t)) ?_ ?_ ?_ rem k vals _ h hlen (hdep i) vs rfl
  · intro k vals news f hn hf hlen hdep vs hvs
    obtain ⟨finals, hall, rfl⟩ := specTail_zero_ok sc k vals news f hf
    rw [if_neg (by simp [hnt])] at hvs
    cases hvs
    refine ⟨fun hd => ?_, fun hd => ?_⟩
    · rw [← updVals_not_mem vals (sc.active k) news i (hna hd), allSome_getElem _ _ hall]
      cases vs[i]? <;> rfl
    · obtain ⟨v, hv, hmem⟩ := specStep_active sc k vals news hn hlen (mem_active.mpr ⟨hi, hd⟩)
      have hdk : sc.depth i - 1 = k := Nat.sub_eq_of_eq_add (Nat.le_antisymm hdep hd)
      exact ⟨v, allSome_getElem_some hall hv, hdk ▸ hmem⟩
  · intro _ _ _ _ _ _ _ _ _ _ _ hvs
    cases hvs
  · intro rem k vals news tl f hn _ ih hlen hdep vs hvs
    obtain ⟨ih1, ih2⟩ := ih (by rw [updVals_length, hlen]) (by omega) vs hvs
    refine ⟨fun hd => ?_, fun hd => ?_⟩
    · rw [← ih1 (Nat.le_succ_of_le hd), updVals_not_mem _ _ _ _ (hna hd)]
    · rw [chainEnds_append]
      -- branch `i` has its last step here — then its value survives the rest of the loop untouched (`ih1`) — or later (`ih2`)
      by_cases hlast : sc.depth i ≤ k + 1
      · obtain ⟨v, hv, hmem⟩ := specStep_active sc k vals news hn hlen (mem_active.mpr ⟨hi, hd⟩)
        have hdk : sc.depth i - 1 = k := Nat.sub_eq_of_eq_add (Nat.le_antisymm hlast hd)
        exact ⟨v, by rw [← ih1 hlast, hv]; rfl, List.mem_append_left _ (hdk ▸ hmem)⟩
      · obtain ⟨v, hv1, hv2⟩ := ih2 (Nat.lt_of_not_le hlast)
        exact ⟨v, hv1, List.mem_append_right _ hv2⟩

end JoinModel
