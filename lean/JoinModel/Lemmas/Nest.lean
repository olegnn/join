/-
  Nested combinators: the generator's stack of partial chains (ChainGen.lean, mirroring
  `process_step_action_expr` / `wrap_last_step_stream` / the closing loop) computes exactly the documented
  desugaring `X >>> inner… <<< rest  ↦  .x(|__v| __v inner…) rest`, defined here by recursive descent.
-/
import JoinModel.ChainGen
namespace JoinModel

/-- Result of descending into one nesting level.  `closed`: the level ended at an explicit `<<<`; `false`: the actions ran
    out (wrappers close implicitly at the end of the step). -/
structure NestOut where
  toks : Toks
  rest : List Member
  pos : Nat
  defs : List CapDef
  closed : Bool

def applyWrapper (a : Bool) (outer : Toks) (w : Member) (inner : Toks) : Except ChainErr Toks :=
  if w.ops.length ≠ 1 then .error .replaceFailed else applyCtor a outer w.ctor [closureToks inner]

/-- The documented reading of a step's action list, by recursive descent.  After a wrapper the descent goes on with
    `inner.rest`, which is no subterm of the list: hence the fuel; `ms.length + 1` suffices (`nestGo_rest_suffix`, the `+ 1`
    is for the last call on `[]`). -/
def nestGo (a : Bool) (b : Nat) : Nat → Toks → List Member → Nat → List CapDef → Except ChainErr NestOut
  | 0, _, _, _, _ => .error .zeroStepStreams
  | _ + 1, cur, [], e, defs => .ok ⟨cur, [], e, defs, false⟩
  | fuel + 1, cur, m :: ms, e, defs =>
    match m.mv with
    | .none =>
      match applyCtor a cur m.ctor (hoist b e m).2 with
      | .ok t => nestGo a b fuel t ms (e + 1) (defs ++ (hoist b e m).1)
      | .error er => .error er
    | .unwrap => .ok ⟨cur, ms, e + 1, defs, true⟩
    | .wrap =>
      match nestGo a b fuel [Var.v.tok] ms (e + 1) defs with
      | .error er => .error er
      | .ok inner =>
        match applyWrapper a cur m inner.toks with
        | .error er => .error er
        | .ok t => nestGo a b fuel t inner.rest inner.pos inner.defs

theorem wrapLast_eq (a : Bool) (defs : List CapDef) (inner : Frame) (o : Toks) (w : Member) (x : Nat) (rest : List Frame) :
    wrapLast a ⟨defs, inner :: ⟨o, some (w, x)⟩ :: rest⟩ =
      match applyWrapper a o w inner.toks with
      | .ok t => .ok ⟨defs, ⟨t, none⟩ :: rest⟩
      | .error er => .error er := by
  simp only [wrapLast, applyWrapper]
  by_cases h : w.ops.length ≠ 1
  · simp [h]
  · simp only [h, if_false]
    cases applyCtor a o w.ctor [closureToks inner.toks] <;> rfl

theorem nestGo_rest_suffix {a : Bool} {b : Nat} : ∀ {fuel : Nat} {cur : Toks} {ms : List Member} {e : Nat} {defs : List CapDef}
    {r : NestOut}, nestGo a b fuel cur ms e defs = .ok r → r.rest <:+ ms := by
  intro fuel
  induction fuel with
  | zero => intro cur ms e defs r h; simp [nestGo] at h
  | succ n ih =>
    intro cur ms e defs r h
    cases ms with
    | nil => simp [nestGo] at h; subst h; exact List.suffix_refl _
    | cons m ms =>
      simp only [nestGo] at h
      split at h
      · split at h
        · exact (ih h).trans (List.suffix_cons m ms)
        · cases h
      · cases h; exact List.suffix_cons m ms
      · split at h
        · cases h
        · rename_i inner hin
          split at h
          · cases h
          · exact ((ih h).trans (ih hin)).trans (List.suffix_cons m ms)

theorem nestGo_open_rest {a : Bool} {b : Nat} {fuel : Nat} {cur : Toks} {ms : List Member} {e : Nat} {defs : List CapDef}
    {r : NestOut} (h : nestGo a b fuel cur ms e defs = .ok r) (hc : r.closed = false) : r.rest = [] := by
  induction fuel generalizing cur ms e defs r with
  | zero => simp [nestGo] at h
  | succ n ih =>
    cases ms with
    | nil => simp [nestGo] at h; subst h; rfl
    | cons m ms =>
      simp only [nestGo] at h
      split at h
      · split at h
        · exact ih h hc
        · cases h
      · cases h; simp at hc
      · split at h
        · cases h
        · split at h
          · cases h
          · exact ih h hc

def runStack (a : Bool) (b : Nat) (acc : Acc) (ms : List Member) (e : Nat) : Except ChainErr (List CapDef × Toks) :=
  match processActions a b acc ms e with
  | .ok acc' => closeAll a (acc'.frames.length + 1) acc'
  | .error er => .error er

theorem runStack_cons (a : Bool) (b : Nat) (acc : Acc) (m : Member) (ms : List Member) (e : Nat) :
    runStack a b acc (m :: ms) e =
      match processAction a b acc m e with
      | .ok acc' => runStack a b acc' ms (e + 1)
      | .error er => .error er := by
  simp only [runStack, processActions]
  cases processAction a b acc m e <;> rfl

/-- What the machine does with the outcome `r` of a descent that started on its top frame, `below` being the rest of the
    stack: behind an explicit `<<<` it closes one wrapper and goes on with the actions left; when the actions ran out it is
    the machine on no actions. -/
def resume (a : Bool) (b : Nat) (below : List Frame) (r : NestOut) : Except ChainErr (List CapDef × Toks) :=
  if r.closed then
    match wrapLast a ⟨r.defs, ⟨r.toks, none⟩ :: below⟩ with
    | .ok acc => runStack a b acc r.rest r.pos
    | .error er => .error er
  else runStack a b ⟨r.defs, ⟨r.toks, none⟩ :: below⟩ [] r.pos

/-- over a wrapper's frame either outcome closes that wrapper and goes on with what is left — nothing, if the actions ran
    out (`h`: `nestGo_open_rest`) -/
theorem resume_wrapper (a : Bool) (b : Nat) (o : Toks) (w : Member) (x : Nat) (below : List Frame) (r : NestOut)
    (h : r.closed = false → r.rest = []) :
    resume a b (⟨o, some (w, x)⟩ :: below) r =
      match applyWrapper a o w r.toks with
      | .ok t => runStack a b ⟨r.defs, ⟨t, none⟩ :: below⟩ r.rest r.pos
      | .error er => .error er := by
  unfold resume
  cases hc : r.closed with
  | true => simp only [if_true, wrapLast_eq]; cases applyWrapper a o w r.toks <;> rfl
  | false =>
    -- on no actions the machine is the closing loop: its first round closes the wrapper
    simp only [Bool.false_eq_true, if_false, h hc, runStack, processActions, List.length_cons, closeAll, wrapLast_eq]
    cases applyWrapper a o w r.toks <;> rfl

/-- The stack machine against the recursive descent.  Stated for any stack `below` the current frame, so that the
    induction can pass a wrapper's inner chain (one frame more) and, after its `<<<`, re-enter the machine on the rest. -/
theorem runStack_eq (a : Bool) (b : Nat) (fuel : Nat) (defs : List CapDef) (cur : Toks) (below : List Frame)
    (ms : List Member) (e : Nat) (hf : ms.length + 1 ≤ fuel) :
    runStack a b ⟨defs, ⟨cur, none⟩ :: below⟩ ms e = (nestGo a b fuel cur ms e defs).bind (resume a b below) := by
  induction fuel generalizing defs cur below ms e with
  | zero => omega
  | succ n ih =>
    cases ms with
    | nil => rfl
    | cons m ms =>
      have hf' : ms.length + 1 ≤ n := by simp at hf; omega
      rw [runStack_cons, nestGo]
      cases hmv : m.mv with
      | none =>
        simp only [processAction, hmv]
        cases applyCtor a cur m.ctor (hoist b e m).2 with
        | error er => rfl
        | ok t => exact ih (defs ++ (hoist b e m).1) t below ms (e + 1) hf'
      | unwrap =>
        simp only [processAction, hmv]
        rfl
      | wrap =>
        simp only [processAction, hmv]
        -- the machine with the wrapper's frame pushed is the inner descent …
        rw [ih defs [Var.v.tok] (⟨cur, some (m, e)⟩ :: below) ms (e + 1) hf']
        cases hng : nestGo a b n [Var.v.tok] ms (e + 1) defs with
        | error er => rfl
        | ok inner =>
          -- … and once that wrapper is closed it is back on `below`, with what the inner descent left (not longer than `ms`)
          simp only [Except.bind, resume_wrapper _ _ _ _ _ _ _ (nestGo_open_rest hng)]
          cases applyWrapper a cur m inner.toks with
          | error er => rfl
          | ok t => exact ih inner.defs t below inner.rest inner.pos (by have := (nestGo_rest_suffix hng).length_le; omega)

theorem genBranchStep_cons (a : Bool) (b : Nat) (prev : Var) (m : Member) (ms : List Member) :
    genBranchStep a b prev (m :: ms) =
      (runStack a b ⟨[], [⟨wrapIntoBlock a [prev.tok], none⟩]⟩ (m :: ms) 0).map some := by
  simp only [genBranchStep, runStack]
  cases processActions a b ⟨[], [⟨wrapIntoBlock a [prev.tok], none⟩]⟩ (m :: ms) 0 with
  | error er => rfl
  | ok acc => simp only; cases closeAll a (acc.frames.length + 1) acc <;> rfl

theorem genBranchStep_eq_nestGo (a : Bool) (b : Nat) (prev : Var) (m : Member) (ms : List Member) :
    genBranchStep a b prev (m :: ms) =
      match nestGo a b ((m :: ms).length + 1) (wrapIntoBlock a [prev.tok]) (m :: ms) 0 [] with
      | .error er => .error er
      | .ok r => if r.closed then .error .stepExprsLenZero else .ok (some (r.defs, r.toks)) := by
  rw [genBranchStep_cons, runStack_eq a b _ [] _ [] (m :: ms) 0 (Nat.le_refl _)]
  cases nestGo a b ((m :: ms).length + 1) (wrapIntoBlock a [prev.tok]) (m :: ms) 0 [] with
  | error er => rfl
  | ok r => cases hc : r.closed <;> simp [Except.bind, Except.map, resume, hc, wrapLast, runStack, processActions, closeAll]

theorem genBranchStep_ok_iff {a : Bool} {b : Nat} {prev : Var} {m : Member} {ms : List Member}
    {r : Option (List CapDef × Toks)} :
    genBranchStep a b prev (m :: ms) = .ok r ↔
      ∃ o, nestGo a b ((m :: ms).length + 1) (wrapIntoBlock a [prev.tok]) (m :: ms) 0 [] = .ok o ∧ o.closed = false ∧
        r = some (o.defs, o.toks) := by
  rw [genBranchStep_eq_nestGo]
  cases nestGo a b ((m :: ms).length + 1) (wrapIntoBlock a [prev.tok]) (m :: ms) 0 [] with
  | error er => simp
  | ok o =>
    cases hc : o.closed <;> simp [hc]
    exact eq_comm

theorem nestGo_defs {a : Bool} {b : Nat} : ∀ {fuel : Nat} {cur : Toks} {ms : List Member} {e : Nat} {defs : List CapDef}
    {r : NestOut}, nestGo a b fuel cur ms e defs = .ok r →
      r.defs ++ capDefsOf b r.rest r.pos = defs ++ capDefsOf b ms e := by
  intro fuel
  induction fuel with
  | zero => intro cur ms e defs r h; simp [nestGo] at h
  | succ n ih =>
    intro cur ms e defs r h
    cases ms with
    | nil => simp [nestGo] at h; subst h; rfl
    | cons m ms =>
      simp only [nestGo] at h
      split at h
      · rename_i hmv
        split at h
        · rw [ih h, capDefsOf, if_pos hmv, List.append_assoc]
        · cases h
      · rename_i hmv
        cases h
        simp [capDefsOf, hmv]
      · rename_i hmv
        split at h
        · cases h
        · rename_i inner hin
          split at h
          · cases h
          -- unconsumed actions on the left: so the two descents of a wrapper chain by rewriting; `>>>` itself hoists nothing
          · rw [ih h, ih hin, capDefsOf, if_neg (by simp [hmv]), List.nil_append]

end JoinModel
