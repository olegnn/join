/-
  Discharges `InitialOnlyFirst` (Lemmas/Conserve.lean) for whatever the parser model accepts, for every oracle.
-/
import JoinModel.Lemmas.ParseSpec
import JoinModel.Lemmas.Conserve
namespace JoinModel

theorem parse_initial_only_first (o : Oracle) (input : Toks) (p : Input) (h : parseMacroInput o input = .ok p) :
    InitialOnlyFirst p :=
  fun b hb => (((parseMacroInput_spec o input).of_ok h).2 b hb).initialOnlyFirst

end JoinModel
