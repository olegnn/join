/-
  Every schedule of a whole run.  `Lemmas/Lin.lean` has the barrier for one step (fork all, join all, continue);
  `Lin.block` puts the caller's own events in front of it, `specStep_shape` says that the trace of a step of the reference
  loop has that form, and `specLoop_trace_induct` carries it along the loop: in *every* global order of events (`Lin`) of a
  thread-spawning (or sequential) macro run, step numbers never decrease, also when a thread panics.
-/
import JoinModel.Lemmas.Lin
import JoinModel.Lemmas.OrderFacts
namespace JoinModel

def tsteps (t : List TEv) : List Nat := t.filterMap fun e => e.ev.step

theorem Lin.block {evs : List MEv} {fs : List (Tid × String × List Ev)} {rest : List MEv} {t : List TEv} {k : Nat}
    (hev : AllEv evs) (hnd : ((asRun fs).map Prod.fst).Nodup)
    (hk : ∀ e ∈ (evs ++ forksOf fs).flatMap MEv.evs, e.step = some k)
    (h : Lin (evs ++ (forksOf fs ++ joinsOf ((asRun fs).map Prod.fst)) ++ rest) [] t) :
    ∃ t1 t2, t = t1 ++ t2 ∧ (∀ e ∈ t1, e.ev.step = some k) ∧ Lin rest [] t2 := by
  rw [List.append_assoc] at h
  obtain ⟨t', rfl, h'⟩ := Lin.main_prefix _ _ _ hev h
  obtain ⟨t1, t2, rfl, hsh, h2⟩ := barrier fs rest t' hnd h'
  refine ⟨mainTEvs evs ++ t1, t2, (List.append_assoc _ _ _).symm, fun e he => ?_, h2⟩
  rcases List.mem_append.mp he with he | he
  · exact hk _ (List.mem_flatMap.mpr ⟨_, List.mem_append_left _ (mem_mainTEvs he), List.mem_cons_self⟩)
  · obtain ⟨r, hr, hb⟩ := Shuffle.events _ _ hsh e he
    obtain ⟨f, hf, rfl⟩ := List.mem_map.mp hr
    exact hk _ (List.mem_flatMap.mpr ⟨.fork f.1.1 f.1.2 f.2.1 f.2.2, List.mem_append_right _ (List.mem_map_of_mem hf), hb⟩)

def Props.C08.stepThreads (sc : SpecCfg) (k : Nat) (vals : List (Option Value)) (vis : List (String × Value))
    (bcs : List (Nat × List Value)) : List (Tid × String × List Ev) :=
  bcs.map fun bc => ((bc.1, k), threadName sc.parent bc.1,
    chainEvents bc.1 k (sc.σ.chain bc.1 k (specPrev sc vals bc.1 k) bc.2 vis))

open Props.C08 (stepThreads)

theorem stepThreads_ids (sc : SpecCfg) (k : Nat) (vals : List (Option Value)) (vis : List (String × Value))
    (bcs : List (Nat × List Value)) :
    (asRun (stepThreads sc k vals vis bcs)).map Prod.fst = (bcs.map Prod.fst).map fun b => (b, k) := by
  simp [asRun, stepThreads, List.map_map, Function.comp_def]

/-- `take n`: the joins up to the thread that panicked, all of them if the step returns -/
theorem specChainsFork_trace (sc : SpecCfg) (k : Nat) (vals : List (Option Value)) (vis : List (String × Value))
    (bcs : List (Nat × List Value)) :
    ∃ n, (specChainsFork sc k vals vis bcs).trace = forksOf (stepThreads sc k vals vis bcs) ++
        joinsOf (((asRun (stepThreads sc k vals vis bcs)).map Prod.fst).take n) ∧
      ((∃ a, (specChainsFork sc k vals vis bcs).res = .ok a) → bcs.length ≤ n) := by
  obtain ⟨n, -, htr, hok⟩ := specJoins_trace k (forkOuts sc k vals vis bcs)
  refine ⟨n, ?_, fun ⟨a, ha⟩ => ?_⟩
  · rw [specChainsFork_eq, M.tell_andThen_trace, htr, stepThreads_ids]
    simp [forksOf, joinsOf, stepThreads, forkOuts, List.map_map, List.map_take, Function.comp_def]
  · obtain ⟨_, -, h⟩ := M.andThen_res_ok ha
    rw [hok ⟨a, h⟩, forkOuts, List.length_map]
    exact Nat.le_refl _

theorem specStep_evs (sc : SpecCfg) (k : Nat) (vals : List (Option Value)) :
    ∀ e ∈ (specStep sc k vals).trace.flatMap MEv.evs, e.step = some k := by
  intro e he
  obtain ⟨x, hx, hex⟩ := List.mem_flatMap.mp he
  rcases M.mem_andThen_trace hx with hx | ⟨caps, -, hx⟩
  · obtain ⟨_, _, _, _, rfl⟩ := specCapsAll_trace sc k _ _ x hx
    cases List.mem_singleton.mp hex
    rfl
  · unfold specChains at hx
    split at hx
    · obtain ⟨n, htr, -⟩ := specChainsFork_trace sc k vals (visibleSpec sc.names vals) ((sc.active k).zip caps)
      rw [htr] at hx
      rcases List.mem_append.mp hx with hx | hx
      · obtain ⟨f, hf, rfl⟩ := List.mem_map.mp hx
        obtain ⟨bc, -, rfl⟩ := List.mem_map.mp hf
        exact (chainEvents_step _ k _ e hex).1
      · obtain ⟨_, -, rfl⟩ := List.mem_map.mp hx
        cases hex
    · obtain ⟨_, _, e', he', rfl⟩ := specChainsSeq_trace sc k vals _ _ x hx
      cases List.mem_singleton.mp hex
      exact (chainEvents_step _ k _ _ he').1

/-- events of the caller, then forks (none in a sequential step), then their joins up to the thread that panicked -/
theorem specStep_shape (sc : SpecCfg) (k : Nat) (vals : List (Option Value)) :
    ∃ evs fs n, AllEv evs ∧ ((asRun fs).map Prod.fst).Nodup ∧
      (specStep sc k vals).trace = evs ++ (forksOf fs ++ joinsOf (((asRun fs).map Prod.fst).take n)) ∧
      ((∃ a, (specStep sc k vals).res = .ok a) → fs.length ≤ n) := by
  have hcaps : AllEv (specCapsAll sc k (visibleSpec sc.names vals) (sc.active k)).trace := fun x hx => by
    obtain ⟨_, _, _, _, rfl⟩ := specCapsAll_trace sc k _ _ x hx
    exact ⟨_, rfl⟩
  rw [specStep]
  rcases M.andThen_cases (specCapsAll sc k (visibleSpec sc.names vals) (sc.active k))
    (specChains sc k vals (visibleSpec sc.names vals) (sc.active k)) with ⟨caps, hc, ht, hr⟩ | ⟨-, ht, hr⟩ <;> rw [ht]
  · obtain ⟨hl, -⟩ := specCapsAll_length _ _ _ _ _ hc
    rw [hr]
    unfold specChains
    split
    · obtain ⟨n, htr, hok⟩ := specChainsFork_trace sc k vals (visibleSpec sc.names vals) ((sc.active k).zip caps)
      refine ⟨_, _, n, hcaps, ?_, congrArg _ htr, by simpa [stepThreads] using hok⟩
      rw [stepThreads_ids, List.map_fst_zip (Nat.le_of_eq hl)]
      exact List.Pairwise.map _ (fun a b h => by simpa using h) (active_nodup sc k)
    · refine ⟨_, [], 0, fun x hx => ?_, List.nodup_nil, (List.append_nil _).symm, fun _ => Nat.le_refl _⟩
      rcases List.mem_append.mp hx with hx | hx
      · exact hcaps x hx
      · obtain ⟨_, _, e, _, rfl⟩ := specChainsSeq_trace sc k vals _ _ x hx
        exact ⟨e, rfl⟩
  · exact ⟨_, [], 0, hcaps, List.nodup_nil, (List.append_nil _).symm, fun ⟨a, ha⟩ => absurd ha (hr a)⟩

/-- **Every schedule of a whole run**: step numbers never decrease along `t` and none is below the step the loop started
    at — for every kind of macro, every program and world, also when a chain or a capture panics. -/
theorem loop_every_schedule (sc : SpecCfg) (hnd : ∀ k, (sc.active k).Nodup) (rem k : Nat) (vals : List (Option Value))
    (t : List TEv) (h : Lin (specLoop sc rem k vals).trace [] t) :
    (tsteps t).Pairwise (· ≤ ·) ∧ ∀ x ∈ tsteps t, k ≤ x := by
  refine specLoop_trace_induct sc (Q := fun _ k m => ∀ t, Lin m [] t → SortedFrom k (tsteps t)) ?_ ?_ rem k vals t h
  · intro _ k vals t h
    exact SortedFrom.const (filterMap_const fun e he =>
      (h.mem_evs e he).elim (specStep_evs sc k vals _) fun h => nomatch h)
  · intro _ k vals news tl hn ih t h
    obtain ⟨evs, fs, n, hev, hnd, hsh, hok⟩ := specStep_shape sc k vals
    rw [List.take_of_length_le (by simpa [asRun] using hok ⟨news, hn⟩)] at hsh
    have hk := specStep_evs sc k vals
    rw [hsh] at h hk
    obtain ⟨t1, t2, rfl, h1, h2⟩ := Lin.block hev hnd
      (fun e he => hk e (by rw [← List.append_assoc, List.flatMap_append]; exact List.mem_append_left _ he)) h
    rw [tsteps, List.filterMap_append]
    exact SortedFrom.const_append (filterMap_const h1) (Nat.le_succ k) (ih t2 h2)

end JoinModel
