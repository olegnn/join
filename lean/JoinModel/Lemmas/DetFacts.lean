/-
  The determiner model (`Determiner.lean`) seen from outside: what one test demands of the tokens, the `skip` between
  two tests, and how the ordered table is searched when one row is known to fail.
-/
import JoinModel.Determiner
namespace JoinModel

theorem peekPunct_nil (cs : List Char) : peekPunct cs [] = false := by
  cases cs with
  | nil => rfl
  | cons c cs => cases cs <;> rfl

theorem peekPat_nil (p : TokPat) : peekPat p [] = false := by
  cases p with
  | punct cs => exact peekPunct_nil cs
  | _ => rfl

theorem peekPunct_one (c : Char) (t : TT) (ts : Toks) :
    peekPunct [c] (t :: ts) = match t with | .punct d _ => d == c && d != '\'' | _ => false := rfl

theorem peekPunct_two (c c' : Char) (cs : List Char) (t : TT) (ts : Toks) :
    peekPunct (c :: c' :: cs) (t :: ts) =
      match t with | .punct d j => d == c && d != '\'' && j && peekPunct (c' :: cs) ts | _ => false := rfl

theorem peekPunct_one_iff (c : Char) (ts : Toks) :
    peekPunct [c] ts = true ↔ c ≠ '\'' ∧ ∃ j r, ts = .punct c j :: r := by
  cases ts with
  | nil => simp [peekPunct]
  | cons t r =>
    cases t with
    | punct d j =>
      simp only [peekPunct, Bool.and_eq_true, beq_iff_eq, bne_iff_ne, ne_eq, List.cons.injEq, TT.punct.injEq]
      constructor
      · rintro ⟨rfl, h⟩; exact ⟨h, j, r, ⟨rfl, rfl⟩, rfl⟩
      · rintro ⟨h, _, _, ⟨rfl, _⟩, _⟩; exact ⟨rfl, h⟩
    | _ => simp [peekPunct]

theorem peekPat_bracket_iff (ts : Toks) : peekPat .bracket ts = true ↔ ∃ g r, ts = .group .bracket g :: r := by
  cases ts with
  | nil => simp [peekPat]
  | cons t r =>
    cases t with
    | group d g => cases d <;> simp [peekPat]
    | _ => simp [peekPat]

theorem peekPat_quote (p : TokPat) (j : Bool) (ts : Toks) : peekPat p (.punct '\'' j :: ts) = false := by
  cases p with
  | punct cs => cases cs with
    | nil => rfl
    | cons c cs => cases cs <;> simp [peekPat, peekPunct]
  | _ => rfl

namespace Props.C14

theorem skip1_of_ne (c : Char) (j : Bool) (r : Toks) (hq : c ≠ '\'') : skip1 (.punct c j :: r) = some r := by
  unfold skip1
  split
  · next h => cases h
  · next h => simp only [List.cons.injEq, TT.punct.injEq] at h; exact absurd h.1.1 hq
  · next h => simp only [List.cons.injEq] at h; rw [h.2]

end Props.C14

/-- No test accepts the `'` of a lifetime (`peekPat_quote`), so after a test that passed `skip` drops exactly the token it
    looked at: `skip1` plays no part in a match. -/
theorem checkSeq_cons_cons (p q : TokPat) (ps : List TokPat) (t : TT) (ts : Toks) :
    checkSeq (p :: q :: ps) (t :: ts) = (peekPat p (t :: ts) && checkSeq (q :: ps) ts) := by
  cases hp : peekPat p (t :: ts) with
  | false => simp [checkSeq, hp]
  | true =>
    have : skip1 (t :: ts) = some ts := by
      cases t with
      | punct c j => exact Props.C14.skip1_of_ne c j ts fun hc => by rw [hc, peekPat_quote] at hp; cases hp
      | _ => rfl
    simp [checkSeq, hp, this]

theorem checkSeq_one (p : TokPat) (ts : Toks) : checkSeq [p] ts = peekPat p ts := rfl

theorem checkSeq_cons_nil (p : TokPat) (ps : List TokPat) : checkSeq (p :: ps) [] = false := by
  cases ps <;> simp [checkSeq, peekPat_nil]

theorem firstMatch_nil : firstMatch [] = none := by decide

/-- For a row whose test hangs on the unknown tail: with it out of the way the search is decided by the tokens at hand. -/
theorem firstMatch_skip (d : DetRow) (ts : Toks) (h : d.check ts = false) :
    firstMatch ts = (Tables.determiners.filter (· != d)).find? (·.check ts) := by
  unfold firstMatch
  induction Tables.determiners with
  | nil => rfl
  | cons b l ih =>
    by_cases hb : b = d
    · subst hb; simp [h, ih]
    · simp [List.find?_cons, hb, ih]

/-! Two documented operators are a prefix of a longer one (`?|>` of `?|>@`, `=>` of `=>[]`).  The table lists the longer one
    first; the shorter one is selected exactly when the longer one's last test fails on what follows. -/

theorem filterMap_unless_at (j : Bool) (r : Toks) (h : ∀ j' r', r ≠ .punct '@' j' :: r') :
    (firstMatch ([.punct '?' true, .punct '|' true, .punct '>' j] ++ r)).map (·.comb) = some (some .filterMap) := by
  have hp : peekPunct ['@'] r = false := by
    rw [Bool.eq_false_iff, ne_eq, peekPunct_one_iff]
    exact fun ⟨_, j', r', e⟩ => h j' r' e
  have hrow : DetRow.check ⟨some .findMap, [[.punct ['?'], .punct ['|'], .punct ['>'], .punct ['@']]], 4⟩
      ([.punct '?' true, .punct '|' true, .punct '>' j] ++ r) = false := (Bool.or_false _).trans hp
  rw [firstMatch_skip _ _ hrow]
  rfl

theorem andThen_unless_bracket (j : Bool) (r : Toks) (h : ∀ g r', r ≠ .group .bracket g :: r') :
    (firstMatch ([.punct '=' true, .punct '>' j] ++ r)).map (·.comb) = some (some .andThen) := by
  have hb : peekPat .bracket r = false := by
    rw [Bool.eq_false_iff, ne_eq, peekPat_bracket_iff]
    exact fun ⟨g, r', e⟩ => h g r' e
  have hrow : DetRow.check ⟨some .collect, [[.punct ['='], .punct ['>'], .bracket]], 3⟩
      ([.punct '=' true, .punct '>' j] ++ r) = false := (Bool.or_false _).trans hb
  rw [firstMatch_skip _ _ hrow]
  rfl

end JoinModel
