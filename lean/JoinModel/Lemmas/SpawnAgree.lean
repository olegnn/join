/-
  What the reference loop takes from the macro kind.  The loop reads `kind` in two places: `isTry` (when to stop, what
  to return) and `threads` (chains forked or run one after the other).  Two kinds that agree on both give the same loop
  (`specLoop_kind_eq`); two that agree on `isTry` give the same outcome, panics identified with each other
  (`specLoop_kind_sim`): the thread-spawning macros compute what their sequential counterparts compute.
-/
import JoinModel.Lemmas.SpecStep
import JoinModel.Lemmas.Seq
namespace JoinModel

/-- same outcome, panics identified with each other (the sequential macro dies in the panicking chain, the
    thread-spawning one at the `join().unwrap()` of its thread) -/
def Res.sim {α : Type} : Res α → Res α → Prop
  | .ok a, .ok b => a = b
  | .panic _, .panic _ => True
  | .stuck, .stuck => True
  | _, _ => False

theorem Res.sim_refl {α : Type} (r : Res α) : r.sim r := by cases r <;> simp [Res.sim]

theorem Res.sim_symm {α : Type} {r r' : Res α} (h : r.sim r') : r'.sim r := by
  cases r <;> cases r' <;> simp_all [Res.sim]

theorem Res.sim_trans {α : Type} {r r' r'' : Res α} (h : r.sim r') (h' : r'.sim r'') : r.sim r'' := by
  cases r <;> cases r' <;> cases r'' <;> simp_all [Res.sim]

theorem M.andThen_sim {α β : Type} (m1 m2 : M α) (f1 f2 : α → M β) (hm : m1.res.sim m2.res)
    (hf : ∀ a, (f1 a).res.sim (f2 a).res) : (m1.andThen f1).res.sim (m2.andThen f2).res := by
  cases h1 : m1.res <;> cases h2 : m2.res <;> simp only [h1, h2, Res.sim] at hm <;> simp [M.andThen, h1, h2, Res.sim]
  · subst hm; exact hf _

theorem specCapsAll_kind (c : SpecCfg) (kd : Kind) (k : Nat) (vis : List (String × Value)) (bs : List Nat) :
    specCapsAll { c with kind := kd } k vis bs = specCapsAll c k vis bs := by
  simp only [specCapsAll_eq_seq, specCapsBranch_eq_seq]
  rfl

theorem specChainsSeq_kind (c : SpecCfg) (kd : Kind) (k : Nat) (vals : List (Option Value)) (vis : List (String × Value))
    (l : List (Nat × List Value)) : specChainsSeq { c with kind := kd } k vals vis l = specChainsSeq c k vals vis l := by
  rw [specChainsSeq_eq_seq, specChainsSeq_eq_seq]
  rfl

theorem specStep_kind_eq (c : SpecCfg) (kd : Kind) (hth : kd.threads = c.kind.threads) (k : Nat) (vals : List (Option Value)) :
    specStep { c with kind := kd } k vals = specStep c k vals := by
  simp only [specStep, specChains, specCapsAll_kind, specChainsSeq_kind, hth]
  rfl

theorem specChains_sim (c : SpecCfg) (k : Nat) (vals : List (Option Value)) (vis : List (String × Value))
    (bs : List (Nat × List Value)) :
    (specChainsSeq c k vals vis bs).res.sim (specChainsFork c k vals vis bs).res := by
  rw [specChainsFork_eq, M.tell_andThen_res]
  induction bs with
  | nil => simp [specChainsSeq, forkOuts, specJoins, M.ret, Res.sim]
  | cons bc rest ih =>
    simp only [specChainsSeq, forkOuts, List.map_cons, specJoins, M.tell_andThen_res]
    cases (c.σ.chain bc.1 k (specPrev c vals bc.1 k) bc.2 vis).res with
    | panic n => simp [M.andThen, M.lift, UR.toRes, Res.sim]
    | ok v =>
      exact M.andThen_sim ⟨_, .ok v⟩ (M.ret v) _ _ (Res.sim_refl _) fun a => M.andThen_sim _ _ _ _ ih fun _ => Res.sim_refl _

theorem specStep_kind_sim (c : SpecCfg) (kd : Kind) (k : Nat) (vals : List (Option Value)) :
    (specStep c k vals).res.sim (specStep { c with kind := kd } k vals).res := by
  have seq : ∀ (c : SpecCfg) (caps : List (List Value)),
      (specChainsSeq c k vals (visibleSpec c.names vals) ((c.active k).zip caps)).res.sim
        (specChains c k vals (visibleSpec c.names vals) (c.active k) caps).res := by
    intro c caps
    unfold specChains
    split
    · exact specChains_sim c k vals _ _
    · exact Res.sim_refl _
  simp only [specStep, specCapsAll_kind]
  refine M.andThen_sim _ _ _ _ (Res.sim_refl _) fun caps => Res.sim_trans (Res.sim_symm (seq c caps)) ?_
  have := seq { c with kind := kd } caps
  rwa [specChainsSeq_kind] at this

theorem specLoop_kind_eq (c : SpecCfg) (kd : Kind) (htry : kd.isTry = c.kind.isTry) (hth : kd.threads = c.kind.threads)
    (rem k : Nat) (vals : List (Option Value)) : specLoop { c with kind := kd } rem k vals = specLoop c rem k vals :=
  (specLoop_congr (c := c) (c' := { c with kind := kd }) (R := Eq) (S := Eq) (fun _ _ _ _ hm hf => by rw [hm, funext hf]) (fun _ => rfl) htry (fun _ => rfl)
    (fun k vals => (specStep_kind_eq c kd hth k vals).symm) rem k vals).symm

theorem specLoop_kind_sim (c : SpecCfg) (kd : Kind) (htry : kd.isTry = c.kind.isTry) (rem k : Nat)
    (vals : List (Option Value)) : (specLoop c rem k vals).res.sim (specLoop { c with kind := kd } rem k vals).res :=
  specLoop_congr (c := c) (c' := { c with kind := kd }) (R := fun m m' => m.res.sim m'.res) (S := fun m m' => m.res.sim m'.res) M.andThen_sim
    (fun _ => Res.sim_refl _) htry (fun _ => rfl) (specStep_kind_sim c kd) rem k vals

def SpecCfg.spawning (c : SpecCfg) : SpecCfg := { c with kind := { c.kind with isSpawn := true } }

theorem specLoop_spawning_sim (c : SpecCfg) (hs : c.kind.isSpawn = false) (ha : c.kind.isAsync = false) :
    ∀ (rem k : Nat) (vals : List (Option Value)),
      (specLoop c rem k vals).res.sim (specLoop c.spawning rem k vals).res :=
  specLoop_kind_sim c _ rfl

end JoinModel
