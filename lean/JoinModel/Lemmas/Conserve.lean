/-
  Whole-program token conservation of the generator model: the user tokens of every member's operands end up — each
  occurrence exactly once — in the hoisted definitions and chain expressions of the steps `gen` produces.  Built from
  `emit_conserves` and `hoist_conserves` (Lemmas/TokCount) along the recursive-descent reading of a branch-step
  (Lemmas/Nest).  The property statement is in Props/C10 (`gen_conserves_tokens`).
-/
import JoinModel.Lemmas.TokCount
import JoinModel.Lemmas.GenFacts
namespace JoinModel

/-- `s` is nothing the generator writes itself (a template word, `inspect`/`async`/`move`, an internal name): its
    occurrences are the user's -/
structure Marker (s : String) : Prop where
  user : UserIdent s
  notInternal : ∀ v : Var, v.isInternal = true → v.render ≠ s
  notInspect : "inspect" ≠ s
  notAsync : "async" ≠ s
  notMove : "move" ≠ s

def cntOps (s : String) (m : Member) : Nat := sumList (m.ops.map fun o => cntToks s o.toks)

/-- the user tokens of a member as the generator reads them: a `>>>` member's own operand is the placeholder closure and
    a `<<<` member has none -/
def cntMember (s : String) (m : Member) : Nat := if m.mv = .none then cntOps s m else 0

def cntMembers (s : String) (ms : List Member) : Nat := sumList (ms.map (cntMember s))

def cntDefs (s : String) (ds : List CapDef) : Nat := sumList (ds.map fun d => cntToks s d.toks)

theorem applyCtor_count {s : String} (hm : Marker s) {isAsync : Bool} {prev : Toks} {c : Comb} {ops : List Toks}
    {t : Toks} (h : applyCtor isAsync prev c ops = .ok t) (hc : c = .initial → cntToks s prev = 0) :
    cntToks s t = cntToks s prev + sumList (ops.map (cntToks s)) := by
  unfold applyCtor at h
  split at h
  · obtain ⟨e, he, rfl⟩ := Except.bind_pure_ok h
    simp [emit_conserves s hm.user _ _ _ he, hc rfl]
  · obtain ⟨e, he, rfl⟩ := Except.bind_pure_ok h
    simp [emit_conserves s hm.user _ _ _ he, cntToks_append]
    omega
  · split at h
    · rename_i e
      split at h
      · cases h
        simp [cntToks_append, cntTT_id s "inspect" hm.notInspect]
      · cases h
        simp [cntToks_append, cntTT_var s .inspect (hm.notInternal .inspect rfl)]
        omega
    · cases h
  · obtain ⟨e, he, rfl⟩ := Except.bind_pure_ok h
    simp [emit_conserves s hm.user _ _ _ he, cntToks_append]

theorem cnt_closure {s : String} (hm : Marker s) (body : Toks) : cntToks s (closureToks body) = cntToks s body := by
  simp [closureToks, cntTT_var s .v (hm.notInternal .v rfl)]

def cntBranchStep (s : String) : Option (List CapDef × Toks) → Nat
  | none => 0
  | some (ds, t) => cntDefs s ds + cntToks s t

theorem cntMembers_cons (s : String) (m : Member) (ms : List Member) :
    cntMembers s (m :: ms) = cntMember s m + cntMembers s ms := rfl

/-- the descent moves user tokens from the members it consumes into the stream and the definitions: nothing else changes
    the count.  `initial` drops the stream in front of it, so it may stand only where that stream carries nothing. -/
theorem nestGo_count {s : String} (hm : Marker s) {a : Bool} {b : Nat} :
    ∀ {fuel : Nat} {cur : Toks} {ms : List Member} {e : Nat} {defs : List CapDef} {r : NestOut},
      nestGo a b fuel cur ms e defs = .ok r → (∀ m ∈ ms, m.mv = .wrap → m.ctor ≠ .initial) →
      (∀ m ∈ ms.tail, m.mv = .none → m.ctor ≠ .initial) →
      (cntToks s cur = 0 ∨ ∀ m ∈ ms, m.mv = .none → m.ctor ≠ .initial) →
      cntToks s r.toks + cntDefs s r.defs + cntMembers s r.rest = cntToks s cur + cntDefs s defs + cntMembers s ms := by
  intro fuel
  induction fuel with
  | zero => intro cur ms e defs r h; simp [nestGo] at h
  | succ n ih =>
    intro cur ms e defs r h hw hn h0
    cases ms with
    | nil => simp [nestGo] at h; subst h; rfl
    | cons m ms =>
      have hw' : ∀ x ∈ ms, x.mv = .wrap → x.ctor ≠ .initial := fun x hx => hw x (List.mem_cons_of_mem _ hx)
      have hn' : ∀ x ∈ ms.tail, x.mv = .none → x.ctor ≠ .initial := fun x hx => hn x (List.mem_of_mem_tail hx)
      simp only [nestGo] at h
      split at h
      · rename_i hmv
        split at h
        · rename_i t hap
          -- an `initial` here puts `h0` into its left alternative: the stream it throws away carries no user token
          have h1 := applyCtor_count hm hap (fun hc => h0.resolve_right fun h' => h' m (by simp) hmv hc)
          have h2 := hoist_conserves s (fun b e i => hm.notInternal (.ew b e i) rfl) b e m
          -- behind the first member only the right alternative is left: the stream carries user tokens there
          rw [ih h hw' hn' (.inr hn), h1, cntMembers_cons, cntMember, if_pos hmv, cntOps, ← h2, cntDefs, cntDefs,
            List.map_append, sumList_append]
          omega
        · cases h
      · rename_i hmv
        cases h
        simp [cntMembers_cons, cntMember, hmv]
      · rename_i hmv
        split at h
        · cases h
        · rename_i inner hin
          split at h
          · cases h
          · rename_i t hap
            have hsub : ∀ x ∈ inner.rest, x ∈ ms := fun x hx => (nestGo_rest_suffix hin).subset hx
            simp only [applyWrapper] at hap
            split at hap
            · cases hap
            · have h1 := applyCtor_count hm hap (fun hc => absurd hc (hw m (by simp) hmv))
              -- the inner stream starts as `__v`: left alternative again
              have h2 := ih hin hw' hn' (.inl (by simp [cntTT_var s .v (hm.notInternal .v rfl)]))
              rw [ih h (fun x hx => hw' x (hsub x hx)) (fun x hx => hn x (hsub x (List.mem_of_mem_tail hx)))
                (.inr fun x hx => hn x (hsub x hx)), h1, cntMembers_cons, cntMember, if_neg (by simp [hmv])]
              simp only [List.map_cons, List.map_nil, sumList_cons, sumList_nil, cnt_closure hm] at h2 ⊢
              simp [cntTT_var s .v (hm.notInternal .v rfl)] at h2
              omega

theorem cnt_wrapIntoBlock {s : String} (hm : Marker s) (isAsync : Bool) (t : Toks) :
    cntToks s (wrapIntoBlock isAsync t) = cntToks s t := by
  unfold wrapIntoBlock
  split <;> simp only [cntToks_cons, cntToks_nil, cntTT_brace, cntTT_id s _ hm.notAsync, cntTT_id s _ hm.notMove,
    Nat.zero_add, Nat.add_zero]

theorem genBranchStep_count {s : String} (hm : Marker s) {isAsync : Bool} {b : Nat} {prev : Var} {acts : List Member}
    {r : Option (List CapDef × Toks)} (h : genBranchStep isAsync b prev acts = .ok r) (hprev : prev.render ≠ s)
    (htail : ∀ m ∈ acts.tail, m.mv = .none → m.ctor ≠ .initial) (hw : ∀ m ∈ acts, m.mv = .wrap → m.ctor ≠ .initial) :
    cntBranchStep s r = cntMembers s acts := by
  cases acts with
  | nil => cases h; rfl
  | cons m ms =>
    obtain ⟨o, ho, hc, rfl⟩ := genBranchStep_ok_iff.mp h
    have h0 : cntToks s (wrapIntoBlock isAsync [prev.tok]) = 0 := by
      rw [cnt_wrapIntoBlock hm, cntToks_cons, cntTT_var s prev hprev]; rfl
    have := nestGo_count hm ho hw htail (.inl h0)
    rw [nestGo_open_rest ho hc, h0] at this
    simp only [cntBranchStep]
    simp [cntMembers, cntDefs] at this ⊢
    omega

/-! ### one step, all steps -/

def cntElems (s : String) (es : List Elem) : Nat := sumList (es.map fun e => cntToks s e.chain)

def stepCount (s : String) (sc : StepCode) : Nat := cntDefs s sc.defs + cntElems s sc.elems

def stepsCount (s : String) : Steps → Nat
  | .last sc _ => stepCount s sc
  | .cons sc _ rest => stepCount s sc + stepsCount s rest

/-- the condition of `InitialOnlyFirst` on one list of members: a branch, or its actions in one step -/
def InitialOnlyHead (acts : List Member) : Prop :=
  (∀ m ∈ acts.tail, m.mv = .none → m.ctor ≠ .initial) ∧ (∀ m ∈ acts, m.mv = .wrap → m.ctor ≠ .initial)

theorem genElems_count {s : String} (hm : Marker s) (c : Ctx) (k : Nat) (hp : ∀ pv ∈ c.pats, pv.var.render ≠ s)
    {actss : List (List Member)} {b : Nat} {ds : List CapDef} {es : List Elem} (h : genElems c k actss b = .ok (ds, es)) :
    (∀ acts ∈ actss, InitialOnlyHead acts) → cntDefs s ds + cntElems s es = sumList (actss.map (cntMembers s)) := by
  refine genElems_induct (fun _ _ => rfl)
    (fun b rest ds es ih hok => (ih fun a ha => hok a (List.mem_cons_of_mem _ ha)).trans (Nat.zero_add _).symm)
    (fun b acts rest d chain ds es hr ih hok => ?_) h
  have hprev : (c.varOf b).render ≠ s := by
    unfold Ctx.varOf
    cases hpb : c.pats[b]? with
    | none => exact hm.notInternal (.r b) rfl
    | some pv => exact hp pv (List.mem_of_getElem? hpb)
  have h1 := genBranchStep_count hm hr hprev (hok acts List.mem_cons_self).1 (hok acts List.mem_cons_self).2
  have h2 := ih fun a ha => hok a (List.mem_cons_of_mem _ ha)
  simp only [cntBranchStep] at h1
  simp only [List.map_cons, sumList_cons, ← h1, ← h2, cntDefs, cntElems, List.map_append, sumList_append]
  omega

def sumR (f : Nat → Nat) : Nat → Nat → Nat
  | _, 0 => 0
  | k, n + 1 => f k + sumR f (k + 1) n

theorem genSteps_count {s : String} (hm : Marker s) (c : Ctx) (hp : ∀ pv ∈ c.pats, pv.var.render ≠ s)
    (hok : ∀ k, ∀ acts ∈ c.stepActs k, InitialOnlyHead acts) {rem k : Nat} {steps : Steps} (h : genSteps c rem k = .ok steps) :
    stepsCount s steps = sumR (fun j => sumList ((c.stepActs j).map (cntMembers s))) k (rem + 1) :=
  have hstep : ∀ {k sc}, genStep c k = .ok sc → stepCount s sc = sumList ((c.stepActs k).map (cntMembers s)) :=
    fun {k _} hs => genElems_count hm c k hp (genStep_inv hs).1 (hok k)
  genSteps_induct
    (fun k sc hs => by simp [stepsCount, sumR, hstep hs])
    (fun rem k sc rest hs _ ih => by simp only [stepsCount, hstep hs, ih]; rfl) h

/-! ### summing over steps = summing over branches -/

theorem sumR_add (f g : Nat → Nat) : ∀ (n k : Nat), sumR (fun j => f j + g j) k n = sumR f k n + sumR g k n := by
  intro n
  induction n with
  | zero => intro k; rfl
  | succ n ih => intro k; simp only [sumR, ih]; omega

theorem sumR_zero : ∀ (n k : Nat), sumR (fun _ => 0) k n = 0 := by
  intro n
  induction n with
  | zero => intro k; rfl
  | succ n ih => intro k; simp [sumR, ih]

theorem sumR_shift (f : Nat → Nat) : ∀ (n k : Nat), sumR f (k + 1) n = sumR (fun j => f (j + 1)) k n := by
  intro n
  induction n with
  | zero => intro k; rfl
  | succ n ih => intro k; simp only [sumR, ih]

theorem sumR_chains {α : Type} (F : Nat → α → Nat) (l : List α) (n k : Nat) :
    sumR (fun j => sumList (l.map (F j))) k n = sumList (l.map fun x => sumR (fun j => F j x) k n) := by
  induction l with
  | nil => simp [sumR_zero]
  | cons x l ih =>
    simp only [List.map_cons, sumList_cons]
    rw [sumR_add, ih]

/-- one chain read by step index up to any bound `n ≥ length`: the indices past its end read `[]`, hence `hf` -/
theorem sumR_chain (f : List Member → Nat) (hf : f [] = 0) :
    ∀ (ch : List (List Member)) (n : Nat), ch.length ≤ n →
      sumR (fun j => f ((ch[j]?).getD [])) 0 n = sumList (ch.map f) := by
  intro ch
  induction ch with
  | nil => intro n _; simp [hf, sumR_zero]
  | cons g ch ih =>
    intro n hn
    cases n with
    | zero => simp at hn
    | succ n =>
      simp only [sumR, List.getElem?_cons_zero, Option.getD_some, List.map_cons, sumList_cons]
      rw [sumR_shift]
      simp only [List.getElem?_cons_succ]
      rw [ih n (by simpa using hn)]

theorem cntMembers_append (s : String) (a b : List Member) : cntMembers s (a ++ b) = cntMembers s a + cntMembers s b := by
  simp [cntMembers, sumList_append]

theorem splitSteps_count (s : String) (ms : List Member) :
    sumList ((splitSteps ms).map (cntMembers s)) = cntMembers s ms := by
  conv => rhs; rw [← splitSteps_flatten ms]
  induction splitSteps ms with
  | nil => rfl
  | cons a l ih => rw [List.flatten_cons, cntMembers_append, ← ih]; rfl

/-- the `initial` constructor occurs only as a branch's first member; the parser guarantees it
    (`parse_initial_only_first`, Lemmas/ParseInit) -/
def InitialOnlyFirst (p : Input) : Prop :=
  ∀ b ∈ p.branches, (∀ m ∈ b.members.tail, m.mv = .none → m.ctor ≠ .initial) ∧
    (∀ m ∈ b.members, m.mv = .wrap → m.ctor ≠ .initial)

def cntProgram (s : String) (p : Input) : Nat := sumList (p.branches.map fun b => cntMembers s b.members)

theorem gen_count {s : String} (hm : Marker s) (p : Input) (kind : Kind) (code : Code) (h : gen p kind = .ok code)
    (hinit : InitialOnlyFirst p) (hnames : ∀ b ∈ p.branches, ∀ pt, b.pat = some pt → pt.ident ≠ s) :
    stepsCount s code.steps = cntProgram s p := by
  obtain ⟨c, steps, hc, hmax, hsteps, rfl⟩ := gen_inv h
  have hchains := (mkCtx_inv hc).chains
  have hp : ∀ pv ∈ c.pats, pv.var.render ≠ s := (mkCtx_inv hc).forall_pats (fun i => hm.notInternal (.r i) rfl) hnames
  have hok : ∀ k, ∀ acts ∈ c.stepActs k, InitialOnlyHead acts := by
    intro k acts hacts
    rcases mem_stepActs hc hacts with rfl | ⟨b, hb, hg⟩
    · simp [InitialOnlyHead]
    · obtain ⟨h1, h2⟩ := splitSteps_mem b.members acts hg
      obtain ⟨i1, i2⟩ := hinit b hb
      exact ⟨fun m hm' => i1 m (h2 m hm'), fun m hm' => i2 m (h1 m hm')⟩
  have hN := (mkCtx_maxSteps hc).1
  rw [genSteps_count hm c hp hok hsteps, Nat.sub_add_cancel (Nat.pos_of_ne_zero hmax)]
  simp only [Ctx.stepActs, hchains, List.map_map, Function.comp_def]
  rw [sumR_chains (fun j (b : Branch) => cntMembers s (((splitSteps b.members)[j]?).getD [])) p.branches]
  simp only [cntProgram]
  congr 1
  apply List.map_congr_left
  intro b hb
  rw [sumR_chain (cntMembers s) (by simp [cntMembers]) _ _ (hN b hb), splitSteps_count]

end JoinModel
