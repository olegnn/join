/-
  What the parser model returns, function by function, for every oracle (whatever syn answers): one specification
  theorem for each of `parseUntil`, `parseUnits`, `parseNOrEmpty`, `parseGroup`, `buildChain`, the item loop and the
  whole input.  Each says that the function does not run out of the fuel it was given and, as far as the theorems built on
  it need, what holds of a returned value.  `parseUntil_after`, `finishChain_spec` and
  the definition `letFirst` repeat a block of the model's code as it stands in Parse.lean: a textual change there is to be
  repeated here.
  Termination (`parse_never_out_of_fuel`), the well-formedness of accepted programs (`BranchOK`), "the first member is the
  initial value" (`HeadInitial`) and "`initial` occurs only there" (`ParsedBranch.initialOnlyFirst`; Lemmas/ParseInit) are
  read off these.
-/
import JoinModel.Lemmas.ScanStep
import JoinModel.Lemmas.OptionParse
import JoinModel.Lemmas.ListFacts
namespace JoinModel
open Props.C14 (DropT)

/-! ### facts of the extracted tables -/

theorem det_len_pos : ∀ g ∈ Tables.determiners, g.comb.isSome = true → 1 ≤ g.len := by decide

theorem det_rows_not_initial : ∀ row ∈ Tables.determiners, row.comb ≠ some .initial := by decide

theorem arity_initial : arityOf .initial = some ⟨.initial, 1, false, .expr⟩ := rfl

theorem arity_not_initial : ∀ row ∈ Tables.arity, row.1 ≠ .initial → row.2.ctor ≠ .initial := by decide

theorem wrapper_not_initial : ∀ row ∈ Tables.wrapperCtor, row.2 ≠ .initial := by decide

/-! ### lengths -/

theorem eraseN_len : ∀ (n : Nat) (ts r : Toks), eraseN n ts = some r → r.length + n = ts.length
  | 0, ts, r, h => by cases h; rfl
  | n + 1, _ :: ts, r, h => by have := eraseN_len n ts r h; simp only [List.length_cons]; omega

theorem eatComma_len {l r : Toks} (h : eatComma l = some r) : r.length < l.length := by
  unfold eatComma at h
  split at h
  · cases h; simp
  · cases h

theorem eatComma_getD_len (l : Toks) : ((eatComma l).getD l).length ≤ l.length := by
  cases h : eatComma l with
  | none => exact Nat.le_refl _
  | some r => exact Nat.le_of_lt (eatComma_len h)

/-! ### units -/

/-- a `<<<` is always announced as such -/
def GroupOK (g : NextGroup) : Prop := g.mv = .none → g.comb ≠ .unwrap

def OfRow (g : NextGroup) : Prop := GroupOK g ∧ ∃ row ∈ Tables.determiners, row.comb = some g.comb

theorem OfRow.ne_initial {g : NextGroup} (h : OfRow g) : g.comb ≠ .initial := by
  obtain ⟨_, row, hrow, hc⟩ := h
  exact fun hi => det_rows_not_initial row hrow (hi ▸ hc)

/-- What a unit parser leaves behind.  `must`: a non-empty unit had to be read, so input was consumed even where no operator
    followed. -/
def Leaves (input : Toks) (must : Prop) (next : Option NextGroup) (rest : Toks) : Prop :=
  rest.length ≤ input.length ∧ (next.isSome = true ∨ must → rest.length < input.length) ∧ ∀ g, next = some g → OfRow g

theorem Leaves.mono {input input' : Toks} {must must' : Prop} {next : Option NextGroup} {rest : Toks}
    (h : Leaves input' must' next rest) (hle : input'.length ≤ input.length)
    (hm : must → must' ∨ input'.length < input.length) : Leaves input must next rest :=
  ⟨Nat.le_trans h.1 hle, fun hc => by
    rcases hc with hc | hc
    · exact Nat.lt_of_lt_of_le (h.2.1 (.inl hc)) hle
    · rcases hm hc with hc | hc
      · exact Nat.lt_of_lt_of_le (h.2.1 (.inr hc)) hle
      · exact Nat.lt_of_le_of_lt h.1 hc, h.2.2⟩

/-- What `parseUntil` does behind its scan, which stopped in front of `input'` at the row `next` with the `~` flag `d`: the
    row's tokens are erased, and a `>>>` behind an operator; the group that follows is the row's combinator. -/
theorem parseUntil_after (next : Option DetRow) (input' : Toks) (d : Bool) (hrow : ∀ g, next = some g → g ∈ Tables.determiners) :
    Ends (match next with
      | none => (.ok (false, input') : Except ParseErr (Bool × Toks))
      | some g =>
        match g.comb with
        | none =>
          match eraseN g.len input' with
          | some r => .ok (false, r)
          | none => .error (.syn "unexpected end of input")
        | some c =>
          match eraseN g.len input' with
          | none => .error (.syn "unexpected end of input")
          | some forked =>
            let wrap := Tables.wrapperDet.check forked
            if wrap && c == .unwrap then .error .bothWrapUnwrap
            else if wrap && !canBeWrapper c then .error .notAWrapper
            else
              let r := if wrap then forked.drop Tables.wrapperDet.len else forked
              .ok (wrap, r)) NoFuel fun r =>
      Leaves input' False (next.bind fun g => g.comb.map fun c =>
        ⟨c, d, if r.1 then .wrap else if c == .unwrap then .unwrap else .none⟩) r.2 := by
  cases next with
  | none => exact ⟨Nat.le_refl _, fun h => h.elim (fun h => by cases h) False.elim, fun _ h => (by cases h)⟩
  | some g =>
    simp only [Option.bind_some]
    cases he : eraseN g.len input' with
    | none => cases g.comb <;> simp [Ends, NoFuel]
    | some forked =>
      have hr := eraseN_len _ _ _ he
      cases hc : g.comb with
      | none => exact ⟨Nat.le.intro hr, fun h => h.elim (fun h => by cases h) False.elim, fun _ h => (by cases h)⟩
      | some c =>
        -- a row that announces an operator is at least one token long (the `,` row consumes nothing)
        have hpos := det_len_pos g (hrow g rfl) (by rw [hc]; rfl)
        simp only
        by_cases h1 : (Tables.wrapperDet.check forked && c == Comb.unwrap) = true
        · simp [h1, Ends, NoFuel]
        rw [if_neg h1]
        by_cases h2 : (Tables.wrapperDet.check forked && !canBeWrapper c) = true
        · simp [h2, Ends, NoFuel]
        rw [if_neg h2]
        have hd := (List.drop_sublist Tables.wrapperDet.len forked).length_le
        refine ⟨by simp only; split <;> omega, fun _ => by simp only; split <;> omega, fun ng hng => ?_⟩
        cases hng
        -- `GroupOK`: with a `>>>` the premise `mv = .none` is false; without one it says `c ≠ .unwrap`
        refine ⟨fun hmv hu => ?_, g, hrow g rfl, hc⟩
        cases hw : Tables.wrapperDet.check forked with
        | true => simp [hw] at hmv
        | false => simp [hw] at hmv; exact hmv hu

theorem parseUntil_spec (o : Oracle) (syn : Syn) (ae : Bool) (input : Toks) :
    Ends (parseUntil o syn ae input) NoFuel fun u => Leaves input (o.valid syn [] = false) u.next u.rest := by
  have hscan := scan_spec o syn ae (input.length + 1) [] input false
  unfold parseUntil
  cases hs : scan o syn ae (input.length + 1) [] input false with
  | error e => exact hscan.of_error hs (Nat.lt_succ_self _)
  | ok r =>
    obtain ⟨toks, nx, d', input'⟩ := r
    obtain ⟨col, rfl, hdrop, -, hrow⟩ := hscan.of_ok hs
    -- the collected tokens and what is left fit into the input
    have hlen := hdrop.length_le
    simp only [List.length_append] at hlen
    have hafter := parseUntil_after nx input' d' fun g hg => List.mem_of_find?_eq_some (hrow g hg).1
    simp only
    split
    · exact hafter.of_error ‹_›
    · rename_i wrap rest heq
      cases hv : o.valid syn toks with
      | false => cases syn <;> simp [Ends, NoFuel]
      | true =>
        -- a valid unit is not empty where the empty stream is not valid
        exact (hafter.of_ok heq).mono (by omega) fun hc => .inr (by
          have : 0 < toks.length := List.length_pos_iff.mpr fun h => by rw [h, hc] at hv; cases hv
          omega)

theorem parseUnits_spec (o : Oracle) (syn : Syn) : ∀ (n : Nat) (input : Toks) (acc : List Toks),
    Ends (parseUnits o syn n input acc) NoFuel fun r =>
      r.1.length = acc.length + n ∧ Leaves input (0 < n ∧ o.valid syn [] = false) r.2.1 r.2.2 := by
  intro n
  induction n with
  | zero => exact fun input acc => ⟨rfl, Nat.le_refl _, fun h => (by simp at h), fun g h => (by cases h)⟩
  | succ n ih =>
    intro input acc
    have hu := parseUntil_spec o syn false input
    unfold parseUnits
    cases hpu : parseUntil o syn false input with
    | error e => exact hu.of_error hpu
    | ok u =>
      have q := hu.of_ok hpu
      simp only
      split
      · rename_i hn
        exact ⟨by simp [hn], q.mono (Nat.le_refl _) fun h => .inl h.2⟩
      · cases hc : eatComma u.rest with
        | none => simp [Ends, NoFuel]
        | some rest' =>
          have hlen := eatComma_len hc
          simp only
          split
          · simp [Ends, NoFuel]
          · refine (ih rest' (acc ++ [u.toks])).mono (fun _ h => h) fun r ⟨j1, j2⟩ => ?_
            -- the comma is gone already: what remains is shorter whatever the later units do
            exact ⟨by simp at j1; omega, j2.mono (by have := q.1; omega) fun _ => .inr (by have := q.1; omega)⟩

theorem parseNOrEmpty_spec (o : Oracle) (syn : Syn) (count : Nat) (ae : Bool) (input : Toks) :
    Ends (parseNOrEmpty o syn count ae input) NoFuel fun r =>
      ((r.1.getD []).length = count ∨ (ae = true ∧ r.1.getD [] = [])) ∧
      Leaves input (ae = false ∧ 0 < count ∧ o.valid syn [] = false) r.2.1 r.2.2 := by
  -- the fallback of `parseNOrEmpty`, on the literal `match` so that it closes the goal `split` leaves
  have units : Ends (match parseUnits o syn count input [] with
        | .error e => (.error e : Except ParseErr (Option (List Toks) × Option NextGroup × Toks))
        | .ok (ops, next, rest) => .ok (if count = 0 then some [] else some ops, next, rest)) NoFuel fun r =>
      ((r.1.getD []).length = count ∨ (ae = true ∧ r.1.getD [] = [])) ∧
      Leaves input (ae = false ∧ 0 < count ∧ o.valid syn [] = false) r.2.1 r.2.2 := by
    have hu := parseUnits_spec o syn count input []
    cases hp : parseUnits o syn count input [] with
    | error e => exact hu.of_error hp
    | ok r =>
      obtain ⟨q1, q2⟩ := hu.of_ok hp
      refine ⟨.inl ?_, q2.mono (Nat.le_refl _) fun h => .inl h.2⟩
      by_cases hc : count = 0
      · simp [hc]
      · simpa [hc] using q1
  unfold parseNOrEmpty
  simp only
  split
  · rename_i u hfirst
    -- `hfirst : first = some u`, where `first` is `none` unless `ae` holds and the attempt at an empty unit returns one
    split at hfirst
    · rename_i hae
      split at hfirst
      · rename_i u' hu
        cases hfirst
        exact ⟨.inr ⟨hae, rfl⟩, ((parseUntil_spec o .empty true input).of_ok hu).mono (Nat.le_refl _) fun h =>
          (by rw [hae] at h; cases h.1)⟩
      -- `ae = true`, the attempt failed: `hfirst : none = some u`
      · cases hfirst
    -- `ae = false`, no attempt: `hfirst : none = some u`
    · cases hfirst
  · exact units

def Built (g : NextGroup) (m : Member) : Prop :=
  m.deferred = g.deferred ∧ m.mv = g.mv ∧
  (g.mv = .wrap → wrapperCtorOf g.comb = some m.ctor ∧ m.ops.length = 1) ∧
  (g.mv ≠ .wrap → ∃ ar, arityOf g.comb = some ar ∧ m.ctor = ar.ctor ∧
    (m.ops.length = ar.count ∨ (ar.allowEmpty = true ∧ m.ops = [])))

theorem parseGroup_spec (o : Oracle) (g : NextGroup) (input : Toks) :
    Ends (parseGroup o g input) NoFuel fun r =>
      Built g r.1.1 ∧ (r.1.2.length = 1 → r.1.1.ops.length = 1) ∧
      Leaves input (g.comb = .initial ∧ g.mv = .none ∧ o.validExpr [] = false) r.2.1 r.2.2 := by
  unfold parseGroup
  by_cases hw : g.mv = .wrap
  · simp only [hw, if_true]
    cases hctor : wrapperCtorOf g.comb with
    | none => simp [Ends, NoFuel]
    | some ctor =>
      have hu := parseUntil_spec o .empty true input
      cases hpu : parseUntil o .empty true input with
      | error e => exact hu.of_error hpu
      | ok u =>
        exact ⟨⟨rfl, hw.symm, fun _ => ⟨hctor, rfl⟩, fun h => absurd hw h⟩, fun _ => rfl,
          (hu.of_ok hpu).mono (Nat.le_refl _) fun h => nomatch h.2.1⟩
  · simp only [hw, if_false]
    cases har : arityOf g.comb with
    | none => simp [Ends, NoFuel]
    | some ar =>
      simp only
      have hn := parseNOrEmpty_spec o (if ar.count = 0 then Syn.empty else
        match ar.kind with | .expr => Syn.expr | .type => Syn.type) ar.count ar.allowEmpty input
      cases hp : parseNOrEmpty o (if ar.count = 0 then Syn.empty else
        match ar.kind with | .expr => Syn.expr | .type => Syn.type) ar.count ar.allowEmpty input with
      | error e => exact hn.of_error hp
      | ok r =>
        obtain ⟨q1, q2⟩ := hn.of_ok hp
        refine ⟨⟨rfl, rfl, fun h => absurd h hw, fun _ => ⟨ar, har, rfl, by simpa using q1⟩⟩, fun hr => by simpa using hr,
          q2.mono (Nat.le_refl _) fun h => .inl ?_⟩
        obtain ⟨hc, _, hv⟩ := h
        -- the one arity known here is that of the initial value: one expression, never left out — hence input is consumed
        rw [hc, arity_initial] at har
        cases har
        exact ⟨rfl, Nat.one_pos, hv⟩

/-! ### chains -/

/-- the builder's balance check, as a function of the finished member list: `w` is the balance before the first member -/
def chk : Int → List Member → Bool
  | _, [] => true
  | w, m :: ms =>
    let w1 := (if m.deferred then 0 else w) + mvDelta m.mv
    decide (0 ≤ w1) && chk w1 ms

/-- the last step of `buildChain`, when no operator follows: the separating comma, if any -/
theorem finishChain_spec (lastBlock : Bool) (rest' : Toks) (x : Branch) :
    Ends (if lastBlock then (.ok (x, (eatComma rest').getD rest') : Except ParseErr (Branch × Toks))
          else if rest'.isEmpty then .ok (x, rest')
          else match eatComma rest' with
            | some r => .ok (x, r)
            | none => .error (.syn "expected `,`")) NoFuel fun r => r.1 = x ∧ r.2.length ≤ rest'.length := by
  cases lastBlock with
  | true => exact ⟨rfl, eatComma_getD_len _⟩
  | false =>
    simp only [Bool.false_eq_true, if_false]
    split
    · exact ⟨rfl, Nat.le_refl _⟩
    · cases hc : eatComma rest' with
      | none => simp [Ends, NoFuel]
      | some r => exact ⟨rfl, Nat.le_of_lt (eatComma_len hc)⟩

/-- the `let` handling of a branch's first member: the block of `buildChain` as it stands in Parse.lean, so that a
    hypothesis about it is one about what `split` finds there -/
def letFirst (o : Oracle) (isFirst : Bool) (raws : List Toks) (m : Member) (pat : Option BranchPat) :
    Except ParseErr (Member × Option BranchPat) :=
  if isFirst then
    match raws with
    | [raw] =>
      match o.letSplit raw with
      | .notLet => .ok (m, pat)
      | .otherPat => .error .incorrectLet
      | .identPat p i rhs blk => .ok ({ m with ops := [⟨if blk then .block else .expr, rhs⟩] }, some ⟨p, i⟩)
    | _ => .ok (m, pat)
  else .ok (m, pat)

/-- It puts the right-hand side in place of the operands of `m` (built for `g` from the units `raws`), one for one, so the
    member is still built for `g`; its only error is `incorrectLet`. -/
theorem letFirst_spec (o : Oracle) (isFirst : Bool) (raws : List Toks) (m : Member) (pat : Option BranchPat) (g : NextGroup)
    (hb : Built g m) (hone : raws.length = 1 → m.ops.length = 1) :
    Ends (letFirst o isFirst raws m pat) NoFuel fun r => Built g r.1 := by
  unfold letFirst
  by_cases hf : isFirst = true
  · rw [if_pos hf]
    match raws, hone with
    | [raw], hone =>
      simp only
      cases o.letSplit raw with
      | notLet => exact hb
      | otherPat => simp [Ends, NoFuel]
      | identPat p i rhs blk =>
        obtain ⟨h1, h2, h3, h4⟩ := hb
        refine ⟨h1, h2, fun hw => ⟨(h3 hw).1, rfl⟩, fun hw => ?_⟩
        obtain ⟨ar, a1, a2, a3⟩ := h4 hw
        -- the arity row still fits: there was exactly one operand
        refine ⟨ar, a1, a2, .inl ?_⟩
        rcases a3 with a3 | ⟨_, a3⟩
        · exact a3 ▸ (hone rfl).symm ▸ rfl
        · have := hone rfl; rw [a3] at this; cases this
    | [], _ | _ :: _ :: _, _ => exact hb
  · rw [if_neg hf]; exact hb

/-- the members `buildChain` appends when started at the group `g` with the balance `w` -/
def ChainFrom (g : NextGroup) (w : Int) (ms : List Member) : Prop :=
  ∃ m tail, ms = m :: tail ∧ Built g m ∧ (∀ x ∈ tail, ∃ g', OfRow g' ∧ Built g' x) ∧ chk w tail = true

/-- The last conjunct: a chain that starts with the initial value consumes input, since that value is never empty; the item
    loop (`parseItems_spec`) terminates by it. -/
theorem buildChain_spec (o : Oracle) : ∀ (fuel : Nat) (g : NextGroup) (input : Toks) (members : List Member)
    (pat : Option BranchPat) (w : Int) (isFirst : Bool),
    Ends (buildChain o fuel g input members pat w isFirst) (fun e => input.length < fuel → NoFuel e) fun r =>
      (∃ ms, r.1.members = members ++ ms ∧ ChainFrom g w ms) ∧ r.2.length ≤ input.length ∧
      (g.comb = .initial ∧ g.mv = .none ∧ o.validExpr [] = false → r.2.length < input.length) := by
  intro fuel
  induction fuel with
  | zero => exact fun _ _ _ _ _ _ h => (by omega)
  | succ fuel ih =>
    intro g input members pat w isFirst
    have hg := parseGroup_spec o g input
    unfold buildChain
    cases hp : parseGroup o g input with
    | error e => exact fun _ => hg.of_error hp
    | ok r =>
      obtain ⟨⟨m, raws⟩, next, rest'⟩ := r
      obtain ⟨hb, hone, hl⟩ := hg.of_ok hp
      simp only at hl ⊢
      have hlet := letFirst_spec o isFirst raws m pat g hb hone
      split
      · exact fun _ => hlet.of_error ‹_›
      · rename_i m' pat' hfirst
        have hb' : Built g m' := hlet.of_ok hfirst
        cases next with
        | some nx =>
          -- an operator follows, so this group has consumed input: that pays for the fuel of the recursive call
          have hlt := hl.2.1 (.inl rfl)
          simp only
          by_cases hneg : (if nx.deferred = true then 0 else w) + mvDelta nx.mv < 0
          · simp [hneg, Ends, NoFuel]
          · simp only [hneg, if_false]
            refine (ih nx rest' (members ++ [m']) pat' _ false).mono (fun e h hf => h (by omega)) fun r h => ?_
            obtain ⟨⟨ms, hmem, m2, tail2, rfl, hb2, htl2, hchk2⟩, j1, _⟩ := h
            refine ⟨⟨m' :: m2 :: tail2, by simp [hmem], m', _, rfl, hb', ?_, ?_⟩, by omega, fun _ => by omega⟩
            · intro x hx
              rcases List.mem_cons.mp hx with rfl | hx
              · exact ⟨nx, hl.2.2 nx rfl, hb2⟩
              · exact htl2 x hx
            · simp only [chk, hb2.1, hb2.2.1, Bool.and_eq_true, decide_eq_true_eq]
              exact ⟨by omega, hchk2⟩
        | none =>
          refine (finishChain_spec _ rest' ⟨pat', members ++ [m']⟩).mono (fun _ h _ => h) fun r ⟨h1, h2⟩ => ?_
          exact ⟨⟨[m'], by rw [h1], m', [], rfl, hb', fun _ h => (by cases h), rfl⟩, by have := hl.1; omega,
            fun h => by have := hl.2.1 (.inr h); omega⟩

/-! ### items -/

/-- `Handler::try_from` consumes the handler keyword -/
theorem parseHandlerItem_spec (o : Oracle) (input : Toks) (hne : input ≠ []) :
    Ends (parseHandlerItem o input) NoFuel fun r => r.2.length < input.length := by
  unfold parseHandlerItem
  split
  · simp [Ends, NoFuel]
  · simp only
    split
    · simp [Ends, NoFuel]
    · have := eatComma_getD_len (List.drop ‹Nat› (List.drop 3 input))
      have := List.length_pos_iff.mpr hne
      show ((eatComma _).getD _).length < _
      simp only [List.length_drop] at *
      omega

def ParsedBranch (b : Branch) : Prop := ChainFrom ⟨.initial, false, .none⟩ 0 b.members

theorem parseItems_spec (o : Oracle) : ∀ (fuel : Nat) (input : Toks) (bs : List Branch) (h : Option (HKind × Toks)),
    Ends (parseItems o fuel input bs h) (fun e => o.validExpr [] = false → input.length < fuel → NoFuel e) fun r =>
      ∀ b ∈ r.1, b ∈ bs ∨ ParsedBranch b := by
  intro fuel
  induction fuel with
  | zero => exact fun _ _ _ _ h => (by omega)
  | succ fuel ih =>
    intro input bs h
    cases input with
    | nil => exact fun b hb => .inl hb
    | cons t ts =>
      unfold parseItems
      split
      · split
        · simp [Ends, NoFuel]
        · have hh := parseHandlerItem_spec o (t :: ts) (by simp)
          cases hp : parseHandlerItem o (t :: ts) with
          | error e => exact fun _ _ => hh.of_error hp
          | ok r =>
            have := hh.of_ok hp
            exact (ih r.2 bs (some r.1)).mono (fun e he hv hf => he hv (by omega)) fun _ h => h
      · have hb := buildChain_spec o ((t :: ts).length + 2) ⟨.initial, false, .none⟩ (t :: ts) [] none 0 true
        cases hp : buildChain o ((t :: ts).length + 2) ⟨.initial, false, .none⟩ (t :: ts) [] none 0 true with
        | error e => exact fun _ _ => hb.of_error hp (by omega)
        | ok r =>
          obtain ⟨⟨ms, hms, hch⟩, _, hlt⟩ := hb.of_ok hp
          -- a chain is known to consume input only when syn rejects the empty expression (`hv`): otherwise this loop could spin
          refine (ih r.2 (bs ++ [r.1]) h).mono (fun e he hv hf => he hv (by have := hlt ⟨rfl, rfl, hv⟩; omega)) fun r' h' b hb' => ?_
          rcases h' b hb' with hb' | hb'
          · rcases List.mem_append.mp hb' with hb' | hb'
            · exact .inl hb'
            · cases List.mem_singleton.mp hb'
              exact .inr (by rw [ParsedBranch, hms]; exact hch)
          · exact .inr hb'

/-! ### options -/

theorem parseOption_spec (o : Oracle) (kw : String) (input : Toks) (opts : Opts) :
    Ends (parseOption o kw input opts) NoFuel fun r => r.2.length + 2 = input.length := by
  have key (t : TT) (content rest : Toks) : Ends (parseOption o kw (t :: .group .paren content :: rest) opts) NoFuel
      fun r => r.2.length + 2 = (t :: .group .paren content :: rest).length := by
    rw [parseOption_cons]
    split
    · simp [Ends, NoFuel]
    · split
      · exact rfl
      · split <;> simp [Ends, NoFuel]
  unfold parseOption
  split
  · exact key _ _ _
  · simp [Ends, NoFuel]

theorem optionRound_spec (o : Oracle) : ∀ (kws : List String) (input : Toks) (opts : Opts),
    Ends (optionRound o kws input opts) NoFuel fun r =>
      r.2.length ≤ input.length ∧ (∀ s, optionKw input = some s → s ∈ kws → r.2.length < input.length) := by
  intro kws
  induction kws with
  | nil => exact fun input opts => ⟨Nat.le_refl _, fun s _ hs => (by cases hs)⟩
  | cons kw kws ih =>
    intro input opts
    unfold optionRound
    by_cases hk : optionKw input = some kw
    · simp only [hk, if_true]
      have hpo := parseOption_spec o kw input opts
      cases hp : parseOption o kw input opts with
      | error e => exact hpo.of_error hp
      | ok r =>
        have hl := hpo.of_ok hp
        exact (ih r.2 r.1).mono (fun _ h => h) fun r' ⟨j1, _⟩ => ⟨by omega, fun _ _ _ => by omega⟩
    · simp only [hk, if_false]
      refine (ih input opts).mono (fun _ h => h) fun r' ⟨j1, j2⟩ => ⟨j1, fun s hs hmem => ?_⟩
      rcases List.mem_cons.mp hmem with rfl | hmem
      · exact absurd hs hk
      · exact j2 s hs hmem

theorem optionKw_mem {input : Toks} {s : String} (h : optionKw input = some s) : s ∈ Tables.optionOrder := by
  unfold optionKw at h
  split at h
  · split at h
    · rename_i hc; cases h; simpa using hc
    · cases h
  · cases h

theorem parseOptions_spec (o : Oracle) : ∀ (fuel rounds : Nat) (input : Toks) (opts : Opts),
    Ends (parseOptions o fuel rounds input opts) (fun e => input.length < fuel → NoFuel e) fun _ => True := by
  -- the extracted table sets no limit on the rounds: the loop ends only where no option keyword stands
  have hrounds : Tables.optionRounds = none := rfl
  intro fuel
  induction fuel with
  | zero => exact fun _ _ _ h => (by omega)
  | succ fuel ih =>
    intro rounds input opts
    cases rounds with
    | zero => trivial
    | succ rounds =>
      unfold parseOptions
      split
      · trivial
      · rename_i hcond
        have hr := optionRound_spec o Tables.optionOrder input opts
        cases hp : optionRound o Tables.optionOrder input opts with
        | error e => exact fun _ => hr.of_error hp
        | ok r =>
          -- the round was entered at an option keyword, so it consumed at least that option
          have hlt : r.2.length < input.length := by
            cases hk : optionKw input with
            | none => simp [hrounds, hk] at hcond
            | some s => exact (hr.of_ok hp).2 s hk (optionKw_mem hk)
          exact (ih rounds r.2 r.1).mono (fun e he hf => he (by omega)) fun _ h => h

/-! ### the whole input -/

theorem parseMacroInput_spec (o : Oracle) (input : Toks) :
    Ends (parseMacroInput o input) (fun e => o.validExpr [] = false → NoFuel e) fun p =>
      p.branches ≠ [] ∧ ∀ b ∈ p.branches, ParsedBranch b := by
  unfold parseMacroInput
  simp only
  have ho := parseOptions_spec o (input.length + 1)
    (match Tables.optionRounds with | some n => n | none => input.length + 1) input {}
  cases hp : parseOptions o (input.length + 1)
    (match Tables.optionRounds with | some n => n | none => input.length + 1) input {} with
  | error e => exact fun _ => ho.of_error hp (Nat.lt_succ_self _)
  | ok r =>
    obtain ⟨opts, rest⟩ := r
    have hi := parseItems_spec o (rest.length + 2) rest [] none
    simp only
    cases hpi : parseItems o (rest.length + 2) rest [] none with
    | error e => exact fun hv => hi.of_error hpi hv (by omega)
    | ok r' =>
      obtain ⟨bs, hd⟩ := r'
      simp only
      split
      · simp [Ends, NoFuel]
      · rename_i hne
        split
        · simp [Ends, NoFuel]
        · exact ⟨fun he => hne (by rw [show bs = [] from he]; rfl), fun b hb => ((hi.of_ok hpi) b hb).resolve_left (by simp)⟩

/-- **The parser's loops terminate.**  Provided syn does not accept the empty token stream as an expression, the model never
    runs out of the fuel it gives its loops: the scan of `parse_until`, the chain builder and the branch/handler loop each
    consume at least one token tree per iteration. -/
theorem parse_never_out_of_fuel (o : Oracle) (hempty : o.validExpr [] = false) (toks : Toks) :
    parseMacroInput o toks ≠ .error (.syn "fuel") :=
  fun h => (parseMacroInput_spec o toks).of_error h hempty rfl

/-! ### what a parsed branch looks like -/

/-- shape of a member built by `parseGroup`, in terms of the *extracted* tables -/
def MemberShape (m : Member) : Prop :=
  match m.mv with
  | .wrap => (∃ c, wrapperCtorOf c = some m.ctor) ∧ m.ops.length = 1
  | .unwrap => True
  | .none => ∃ c ar, arityOf c = some ar ∧ c ≠ .unwrap ∧ m.ctor = ar.ctor ∧
      (m.ops.length = ar.count ∨ (ar.allowEmpty = true ∧ m.ops = []))

theorem Built.shape {g : NextGroup} {m : Member} (h : Built g m) (hg : GroupOK g) : MemberShape m := by
  obtain ⟨_, hmv, hw, hn⟩ := h
  unfold MemberShape
  cases hm : m.mv with
  | wrap => exact ⟨⟨_, (hw (hmv ▸ hm)).1⟩, (hw (hmv ▸ hm)).2⟩
  | unwrap => trivial
  | none =>
    obtain ⟨ar, h1, h2, h3⟩ := hn (by rw [← hmv, hm]; exact Move.noConfusion)
    exact ⟨_, ar, h1, hg (hmv ▸ hm), h2, h3⟩

theorem Built.ne_initial {g : NextGroup} {m : Member} (h : Built g m) (hg : g.comb ≠ .initial) : m.ctor ≠ .initial := by
  obtain ⟨_, hmv, hw, hn⟩ := h
  by_cases hgw : g.mv = .wrap
  · exact wrapper_not_initial _ (lookup_mem (hw hgw).1)
  · obtain ⟨ar, h1, h2, _⟩ := hn hgw
    exact h2 ▸ arity_not_initial _ (lookup_mem h1) hg

def BranchOK (br : Branch) : Prop := (∀ x ∈ br.members, MemberShape x) ∧ chk 0 br.members = true

theorem ParsedBranch.ok {b : Branch} (h : ParsedBranch b) : BranchOK b := by
  obtain ⟨m, tail, hm, hb, htl, hchk⟩ := h
  rw [BranchOK, hm]
  refine ⟨fun x hx => ?_, ?_⟩
  · rcases List.mem_cons.mp hx with rfl | hx
    · exact hb.shape (fun _ => Comb.noConfusion)
    · obtain ⟨g', hg', hb'⟩ := htl x hx
      exact hb'.shape hg'.1
  · simp only [chk, hb.1, hb.2.1, mvDelta, Bool.false_eq_true, if_false, Int.add_zero, Int.le_refl, decide_true,
      Bool.true_and]
    exact hchk

/-- a branch as `SupportedBase.firstInitial` wants it -/
def HeadInitial (b : Branch) : Prop := ∃ m ms, b.members = m :: ms ∧ m.deferred = false ∧ m.ctor = .initial

theorem ParsedBranch.headInitial {b : Branch} (h : ParsedBranch b) : HeadInitial b := by
  obtain ⟨m, tail, hm, hb, -⟩ := h
  obtain ⟨ar, h1, h2, -⟩ := hb.2.2.2 Move.noConfusion
  cases arity_initial.symm.trans h1
  exact ⟨m, tail, hm, hb.1, h2⟩

theorem ParsedBranch.initialOnlyFirst {b : Branch} (h : ParsedBranch b) :
    (∀ m ∈ b.members.tail, m.mv = .none → m.ctor ≠ .initial) ∧ (∀ m ∈ b.members, m.mv = .wrap → m.ctor ≠ .initial) := by
  obtain ⟨m, tail, hm, hb, htl, -⟩ := h
  have ht : ∀ x ∈ tail, x.ctor ≠ .initial := fun x hx => by
    obtain ⟨g', hg', hb'⟩ := htl x hx
    exact hb'.ne_initial hg'.ne_initial
  rw [hm]
  refine ⟨fun x hx _ => ht x hx, fun x hx hmv => ?_⟩
  rcases List.mem_cons.mp hx with rfl | hx
  · rw [hb.2.1] at hmv; cases hmv
  · exact ht x hx

theorem parseMacroInput_ok (o : Oracle) (input : Toks) (p : Input) (h : parseMacroInput o input = .ok p) :
    p.branches ≠ [] ∧ ∀ b ∈ p.branches, BranchOK b :=
  ((parseMacroInput_spec o input).of_ok h).imp_right fun hb b hm => (hb b hm).ok

theorem parse_first_initial (o : Oracle) (input : Toks) (p : Input) (h : parseMacroInput o input = .ok p) :
    ∀ b ∈ p.branches, HeadInitial b :=
  fun b hb => (((parseMacroInput_spec o input).of_ok h).2 b hb).headInitial

end JoinModel
