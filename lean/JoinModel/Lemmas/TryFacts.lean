/-
  The try macros on the reference loop: what is returned and what has (not) run.
-/
import JoinModel.Lemmas.SpecFacts
namespace JoinModel

def AllSucc (vals : List (Option Value)) : Prop :=
  ∀ (i : Nat) (v : Value), vals[i]? = some (some v) → v.isSucc = true

theorem allSucc_init' (n : Nat) : AllSucc (List.replicate n none) := by
  intro i v h
  rw [List.getElem?_replicate] at h
  split at h <;> simp at h

theorem allSome_getElem_some {vals : List (Option Value)} {finals : List Value} (h : allSome vals = some finals)
    {i : Nat} {v : Value} (hv : vals[i]? = some (some v)) : finals[i]? = some v := by
  rw [allSome_getElem _ _ h] at hv
  obtain ⟨a, ha, hav⟩ := Option.map_eq_some_iff.mp hv
  cases hav
  exact ha

theorem allSucc_updVals (vals : List (Option Value)) (act : List Nat) (news : List Value)
    (hl : act.length = news.length) (hnd : act.Nodup) (hlt : ∀ b ∈ act, b < vals.length)
    (hv : AllSucc vals) (hn : ∀ v ∈ news, v.isSucc = true) : AllSucc (updVals vals act news) := by
  intro i v hi
  by_cases hm : i ∈ act
  · obtain ⟨pos, hpos, hp⟩ := List.getElem_of_mem hm
    have := updVals_mem vals act news hl hnd pos hpos (hlt _ (List.getElem_mem hpos))
    rw [hp] at this
    rw [this] at hi
    simp only [Option.some.injEq] at hi
    exact hn v (hi ▸ List.getElem_mem _)
  · rw [updVals_not_mem _ _ _ _ hm] at hi
    exact hv i v hi

theorem mem_zip_ends {act : List Nat} {news : List Value} {k : Nat} {e : Nat × Nat × Value} :
    (e ∈ (act.zip news).map fun bv => (bv.1, k, bv.2)) ↔
      ∃ pos, ∃ h1 : pos < act.length, ∃ h2 : pos < news.length, e = (act[pos], k, news[pos]) := by
  constructor
  · intro he
    obtain ⟨bv, hbv, rfl⟩ := List.mem_map.mp he
    obtain ⟨pos, hpos, rfl⟩ := List.getElem_of_mem hbv
    rw [List.length_zip] at hpos
    exact ⟨pos, Nat.lt_of_lt_of_le hpos (Nat.min_le_left _ _), Nat.lt_of_lt_of_le hpos (Nat.min_le_right _ _),
      by rw [List.getElem_zip]⟩
  · rintro ⟨pos, h1, h2, rfl⟩
    exact List.mem_map.mpr ⟨(act[pos], news[pos]),
      List.mem_iff_getElem.mpr ⟨pos, by rw [List.length_zip]; exact Nat.lt_min.mpr ⟨h1, h2⟩, List.getElem_zip⟩, rfl⟩

theorem specStep_ends (sc : SpecCfg) (k : Nat) (vals : List (Option Value)) (news : List Value)
    (h : (specStep sc k vals).res = .ok news) (hlen : vals.length = sc.n) (i j : Nat) (v : Value) :
    (i, j, v) ∈ chainEnds (specStep sc k vals).trace ↔
      j = k ∧ i ∈ sc.active k ∧ (updVals vals (sc.active k) news)[i]? = some (some v) := by
  obtain ⟨hnl, hends⟩ := specStep_ok sc k vals news h
  have hup := fun pos hpos => updVals_mem vals _ news hnl.symm (active_nodup sc k) pos hpos
    (hlen ▸ active_lt sc k _ (List.getElem_mem hpos))
  rw [hends]
  constructor
  · intro he
    obtain ⟨pos, h1, h2, he⟩ := mem_zip_ends.mp he
    cases he
    exact ⟨rfl, List.getElem_mem h1, hup pos h1⟩
  · rintro ⟨rfl, hi, hv⟩
    obtain ⟨pos, hpos, rfl⟩ := List.getElem_of_mem hi
    rw [hup pos hpos] at hv
    cases hv
    exact mem_zip_ends.mpr ⟨pos, hpos, hnl ▸ hpos, rfl⟩

theorem specStep_active (sc : SpecCfg) (k : Nat) (vals : List (Option Value)) (news : List Value)
    (h : (specStep sc k vals).res = .ok news) (hlen : vals.length = sc.n) {i : Nat} (hi : i ∈ sc.active k) :
    ∃ v, (updVals vals (sc.active k) news)[i]? = some (some v) ∧ (i, k, v) ∈ chainEnds (specStep sc k vals).trace := by
  obtain ⟨pos, hpos, rfl⟩ := List.getElem_of_mem hi
  have hv := updVals_mem vals _ news (specStep_ok sc k vals news h).1.symm (active_nodup sc k) pos hpos
    (hlen ▸ active_lt sc k _ hi)
  exact ⟨_, hv, (specStep_ends sc k vals news h hlen _ _ _).mpr ⟨rfl, hi, hv⟩⟩

/-- `v` is the first failure of the trace `t` of a loop started at step `k`: the chain of branch `b` returned it in step
    `j`; no chain failed in an earlier step or in a lower-numbered branch of step `j`; nothing of a later step has run; every
    branch active in step `j` ran its chain of that step to the end -/
def FirstFailure (sc : SpecCfg) (k : Nat) (t : List MEv) (v : Value) : Prop :=
  v.isSucc = false ∧ ∃ b j, k ≤ j ∧ (b, j, v) ∈ chainEnds t ∧
    (∀ e ∈ chainEnds t, e.2.2.isSucc = false → j ≤ e.2.1 ∧ (e.2.1 = j → b ≤ e.1)) ∧
    (∀ e ∈ t, ∀ s, e.step = some s → s ≤ j) ∧
    (∀ b' ∈ sc.active j, ∃ v', (b', j, v') ∈ chainEnds t)

theorem FirstFailure.of_step {sc : SpecCfg} {k : Nat} {vals : List (Option Value)} {news : List Value}
    (hn : (specStep sc k vals).res = .ok news) (hlen : vals.length = sc.n) {b : Nat} {v : Value} (hv : v.isSucc = false)
    (hmem : (b, k, v) ∈ chainEnds (specStep sc k vals).trace)
    (hmin : ∀ e ∈ chainEnds (specStep sc k vals).trace, e.2.2.isSucc = false → b ≤ e.1) :
    FirstFailure sc k (specStep sc k vals).trace v := by
  have hends := specStep_ends sc k vals news hn hlen
  refine ⟨hv, b, k, Nat.le_refl _, hmem, fun e he hes => ?_, fun e he s hs => ?_, fun b' hb' => ?_⟩
  · have := ((hends e.1 e.2.1 e.2.2).mp he).1
    exact ⟨Nat.le_of_eq this.symm, fun _ => hmin e he hes⟩
  · rw [specStep_step sc k vals e he] at hs
    cases hs
    exact Nat.le_refl _
  · exact (specStep_active sc k vals news hn hlen hb').imp fun _ h => h.2

theorem FirstFailure.cons {sc : SpecCfg} {k : Nat} {vals : List (Option Value)} {tl : List MEv} {v : Value}
    (hsucc : ∀ e ∈ chainEnds (specStep sc k vals).trace, e.2.2.isSucc = true) (h : FirstFailure sc (k + 1) tl v) :
    FirstFailure sc k ((specStep sc k vals).trace ++ tl) v := by
  obtain ⟨hvs, b, j, hkj, hmem, hmin, hsteps, hcomp⟩ := h
  simp only [FirstFailure, chainEnds_append, List.mem_append]
  refine ⟨hvs, b, j, by omega, Or.inr hmem, fun e he hes => ?_, fun e he s hs => ?_, fun b' hb' => ?_⟩
  · rcases he with he | he
    · rw [hsucc e he] at hes; cases hes
    · exact hmin e he hes
  · rcases he with he | he
    · rw [specStep_step sc k vals e he] at hs
      cases hs
      omega
    · exact hsteps e he s hs
  · exact (hcomp b' hb').imp fun _ h => Or.inr h

theorem specLoop_try (sc : SpecCfg) (htry : sc.kind.isTry = true) (rem k : Nat) (vals : List (Option Value))
    (hlen : vals.length = sc.n) (hinv : AllSucc vals) (f : Fin) (h : (specLoop sc rem k vals).res = .ok f) :
    match (generalizing := false) f with
    | .vals _ => ∀ e ∈ chainEnds (specLoop sc rem k vals).trace, e.2.2.isSucc = true
    | .failed v => FirstFailure sc k (specLoop sc rem k vals).trace v := by
  -- `AllSucc` is the loop invariant of a try macro: a step is followed by another only if all its values are successes
  refine specLoop_ok_induct sc (Q := fun _ k vals t f => vals.length = sc.n → AllSucc vals →
    match f with
    | .vals _ => ∀ e ∈ chainEnds t, e.2.2.isSucc = true
    | .failed v => FirstFailure sc k t v) ?_ ?_ ?_ rem k vals f h hlen hinv
  · -- the last step: a branch that fails at the end is active in it, the others hold successes
    intro k vals news f hn hf hlen hinv
    obtain ⟨finals, hall, rfl⟩ := specTail_zero_ok sc k vals news f hf
    have hends := specStep_ends sc k vals news hn hlen
    have hfin : ∀ e ∈ chainEnds (specStep sc k vals).trace, finals[e.1]? = some e.2.2 := fun e he =>
      allSome_getElem_some hall ((hends e.1 e.2.1 e.2.2).mp he).2.2
    simp only [htry, if_true]
    cases hff : firstFail finals with
    | none => exact fun e he => (firstFail_none_iff finals).mp hff _ (List.mem_of_getElem? (hfin e he))
    | some v =>
      obtain ⟨i, hi, rfl, hvs, hmin⟩ := firstFail_some finals v hff
      have hup : (updVals vals (sc.active k) news)[i]? = some (some finals[i]) := by
        rw [allSome_getElem _ _ hall, List.getElem?_eq_getElem hi]
        rfl
      have hact : i ∈ sc.active k := Classical.byContradiction fun hna => by
        rw [updVals_not_mem vals _ news i hna] at hup
        rw [hinv i _ hup] at hvs
        cases hvs
      refine FirstFailure.of_step hn hlen hvs ((hends _ _ _).mpr ⟨rfl, hact, hup⟩) fun e he hes => ?_
      refine Nat.le_of_not_lt fun hlt => ?_
      have := hfin e he
      rw [List.getElem?_eq_getElem (by omega)] at this
      rw [← Option.some.inj this, hmin _ hlt] at hes
      cases hes
  · -- a step with a failing chain: the first failing position belongs to the lowest-numbered failing branch
    intro _ k vals news v hn _ hff hlen _
    obtain ⟨hnl, hends⟩ := specStep_ok sc k vals news hn
    obtain ⟨pos, hpos, rfl, hvs, hmin⟩ := firstFail_some news v hff
    have hpa : pos < (sc.active k).length := by omega
    refine FirstFailure.of_step (b := (sc.active k)[pos]) hn hlen hvs ?_ fun e he hes => ?_
    · rw [hends]
      exact mem_zip_ends.mpr ⟨pos, hpa, hpos, rfl⟩
    · rw [hends] at he
      obtain ⟨q, h1, h2, rfl⟩ := mem_zip_ends.mp he
      refine sorted_getElem_le (active_sorted sc k) hpa h1 (Nat.le_of_not_lt fun hlt => ?_)
      rw [hmin q hlt] at hes
      cases hes
  · intro _ k vals news tl f hn hnone ih hlen hinv
    obtain ⟨hnl, hends⟩ := specStep_ok sc k vals news hn
    have hsucc := (firstFail_none_iff news).mp (hnone htry)
    have hthis : ∀ e ∈ chainEnds (specStep sc k vals).trace, e.2.2.isSucc = true := by
      intro e he
      rw [hends] at he
      obtain ⟨q, h1, h2, rfl⟩ := mem_zip_ends.mp he
      exact hsucc _ (List.getElem_mem _)
    have hrec := ih (by rw [updVals_length, hlen]) (allSucc_updVals vals _ news hnl.symm (active_nodup sc k)
      (fun b hb => hlen ▸ active_lt sc k b hb) hinv hsucc)
    cases f with
    | vals ps =>
      intro e he
      rw [chainEnds_append] at he
      exact (List.mem_append.mp he).elim (hthis e) (hrec e)
    | failed v => exact FirstFailure.cons hthis hrec

end JoinModel
