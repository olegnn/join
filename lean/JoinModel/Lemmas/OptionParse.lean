/-
  The option loop of `JoinInputDefault::parse` (join/parse.rs): rounds in which the four keywords are tried in a fixed
  order, repeated until the input no longer starts with an option keyword.  This file shows that the loop is the same as
  reading the options one after the other in the order they were written (`seqSpec`; theorem `parseOptions_seq`): a keyword
  seen for the second time is an error, anything else updates its field.  `parseOption_cons` says what one option does;
  `Opts.over` is why options with different keywords can be applied in any order.
-/
import JoinModel.Parse
namespace JoinModel

structure OptItem where
  kw : String
  content : Toks
  deriving Repr

def OptItem.render (it : OptItem) : Toks := [.ident it.kw, .group .paren it.content]

def renderOpts : List OptItem → Toks
  | [] => []
  | it :: its => it.render ++ renderOpts its

/-- the name used in the "specified twice" error -/
def shortName (kw : String) : String :=
  if kw = "futures_crate_path" then "fcp" else if kw = "custom_joiner" then "joiner"
  else if kw = "transpose_results" then "transpose" else "lazy"

def isSet (opts : Opts) (kw : String) : Bool :=
  if kw = "futures_crate_path" then opts.fcp.isSome else if kw = "custom_joiner" then opts.joiner.isSome
  else if kw = "transpose_results" then opts.transpose.isSome else opts.lazy.isSome

def applyItem (o : Oracle) (opts : Opts) (it : OptItem) : Opts :=
  if it.kw = "futures_crate_path" then
    match o.pathPrefix it.content with
    | some n => { opts with fcp := some (it.content.take n), unexpected := opts.unexpected || decide (n < it.content.length) }
    | none => opts
  else if it.kw = "custom_joiner" then { opts with joiner := some it.content }
  else if it.kw = "transpose_results" then
    match o.litBool it.content with
    | some b => { opts with transpose := some b, unexpected := opts.unexpected || decide (1 < it.content.length) }
    | none => opts
  else
    match o.litBool it.content with
    | some b => { opts with lazy := some b, unexpected := opts.unexpected || decide (1 < it.content.length) }
    | none => opts

def ItemOK (o : Oracle) (it : OptItem) : Prop :=
  it.kw ∈ Tables.optionOrder ∧
  (it.kw = "futures_crate_path" → (o.pathPrefix it.content).isSome = true) ∧
  (it.kw = "transpose_results" ∨ it.kw = "lazy_branches" → (o.litBool it.content).isSome = true)

def seqSpec (o : Oracle) : List OptItem → Opts → Except String Opts
  | [], opts => .ok opts
  | it :: its, opts => if isSet opts it.kw then .error (shortName it.kw) else seqSpec o its (applyItem o opts it)

theorem mem_optionOrder (kw : String) (h : kw ∈ Tables.optionOrder) :
    kw = "futures_crate_path" ∨ kw = "custom_joiner" ∨ kw = "transpose_results" ∨ kw = "lazy_branches" := by
  -- whatever the order in which the table lists the four keywords
  simp only [Tables.optionOrder, List.mem_cons, List.not_mem_nil, or_false] at h
  rcases h with h | h | h | h <;> simp [h]

theorem optionKw_render (it : OptItem) (rest : Toks) (h : it.kw ∈ Tables.optionOrder) :
    optionKw (it.render ++ rest) = some it.kw := by
  simp [optionKw, OptItem.render, h]

/-- `ItemOK`'s condition on the argument, as a `Bool` that `parseOption_cons` can branch on -/
def argOK (o : Oracle) (it : OptItem) : Bool :=
  if it.kw = "futures_crate_path" then (o.pathPrefix it.content).isSome
  else if it.kw = "custom_joiner" then true else (o.litBool it.content).isSome

theorem parseOption_cons (o : Oracle) (kw : String) (t : TT) (content rest : Toks) (opts : Opts) :
    parseOption o kw (t :: .group .paren content :: rest) opts =
      if isSet opts kw then .error (.optionTwice (shortName kw))
      else if argOK o ⟨kw, content⟩ then .ok (applyItem o opts ⟨kw, content⟩, rest)
      else .error (.syn (if kw = "futures_crate_path" then "path" else "expected boolean literal")) := by
  simp only [parseOption, isSet, shortName, argOK, applyItem]
  by_cases h1 : kw = "futures_crate_path"
  · cases o.pathPrefix content <;> cases opts.fcp <;> simp [h1]
  · by_cases h2 : kw = "custom_joiner"
    · cases opts.joiner <;> simp [h2]
    · by_cases h3 : kw = "transpose_results"
      · cases o.litBool content <;> cases opts.transpose <;> simp [h3]
      · cases o.litBool content <;> cases opts.lazy <;> simp [h1, h2, h3]

theorem ItemOK.argOK {o : Oracle} {it : OptItem} (h : ItemOK o it) : argOK o it = true := by
  obtain ⟨hmem, hp, hb⟩ := h
  unfold JoinModel.argOK
  rcases mem_optionOrder _ hmem with h | h | h | h
  · simp [h, hp h]
  · simp [h]
  · simp [h, hb (.inl h)]
  · simp [h, hb (.inr h)]

theorem parseOption_ok (o : Oracle) (it : OptItem) (rest : Toks) (opts : Opts) (hok : ItemOK o it)
    (hset : isSet opts it.kw = false) :
    parseOption o it.kw (it.render ++ rest) opts = .ok (applyItem o opts it, rest) := by
  simp [OptItem.render, parseOption_cons, hset, hok.argOK]

theorem parseOption_twice (o : Oracle) (it : OptItem) (rest : Toks) (opts : Opts) (hset : isSet opts it.kw = true) :
    parseOption o it.kw (it.render ++ rest) opts = .error (.optionTwice (shortName it.kw)) := by
  simp [OptItem.render, parseOption_cons, hset]

theorem optionRound_none (o : Oracle) {input : Toks} (h : optionKw input = none) (opts : Opts) :
    ∀ kws : List String, optionRound o kws input opts = .ok (opts, input)
  | [] => rfl
  | _ :: kws => by rw [optionRound, h, if_neg nofun, optionRound_none o h opts kws]

/-- One round consumes a prefix of the written options, exactly as reading them in order does; the last conjunct is the
    progress `parseOptions_seq` needs. -/
theorem optionRound_seq (o : Oracle) (rest : Toks) (hrest : optionKw rest = none) :
    ∀ (kws : List String) (its : List OptItem) (opts : Opts), (∀ it ∈ its, ItemOK o it) →
    (∃ s, optionRound o kws (renderOpts its ++ rest) opts = .error (.optionTwice s) ∧ seqSpec o its opts = .error s) ∨
    (∃ opts' j, optionRound o kws (renderOpts its ++ rest) opts = .ok (opts', renderOpts (its.drop j) ++ rest) ∧
      seqSpec o its opts = seqSpec o (its.drop j) opts' ∧
      (∀ it its', its = it :: its' → it.kw ∈ kws → 1 ≤ j)) := by
  intro kws
  -- over the keywords the round has yet to try: the head option is taken when its keyword comes up, or waits for a later round
  induction kws with
  | nil => exact fun its opts _ => .inr ⟨opts, 0, rfl, rfl, fun _ _ _ h => nomatch h⟩
  | cons kw kws ih =>
    intro its opts hok
    cases its with
    | nil => exact .inr ⟨opts, 0, optionRound_none o hrest opts _, rfl, fun _ _ h => nomatch h⟩
    | cons it its' =>
      have hit := hok it List.mem_cons_self
      have hin : renderOpts (it :: its') ++ rest = it.render ++ (renderOpts its' ++ rest) := List.append_assoc ..
      by_cases hk : it.kw = kw
      · subst hk
        rw [hin, optionRound, optionKw_render it _ hit.1, if_pos rfl, seqSpec]
        cases hset : isSet opts it.kw with
        | true => exact .inl ⟨_, by rw [parseOption_twice o it _ opts hset], by rw [if_pos rfl]⟩
        | false =>
          rw [parseOption_ok o it _ opts hit hset, if_neg nofun]
          refine (ih its' _ fun x hx => hok x (List.mem_cons_of_mem _ hx)).imp id fun ⟨opts', j, h1, h2, _⟩ => ?_
          exact ⟨opts', j + 1, h1, h2, fun _ _ _ _ => Nat.le_add_left ..⟩
      · have hstep : optionRound o (kw :: kws) (renderOpts (it :: its') ++ rest) opts =
            optionRound o kws (renderOpts (it :: its') ++ rest) opts := by
          rw [hin, optionRound, optionKw_render it _ hit.1, if_neg fun h => hk (Option.some.inj h)]
        rw [hstep]
        refine (ih (it :: its') opts hok).imp id fun ⟨opts', j, h1, h2, h3⟩ => ⟨opts', j, h1, h2, fun x xs hx hmem => ?_⟩
        cases hx
        exact h3 _ _ rfl ((List.mem_cons.mp hmem).resolve_left hk)
theorem renderOpts_length (its : List OptItem) : (renderOpts its).length = 2 * its.length := by
  induction its with
  | nil => rfl
  | cons it its ih => simp [renderOpts, OptItem.render, ih]; omega

theorem parseOptions_seq (o : Oracle) (rest : Toks) (hrest : optionKw rest = none) :
    ∀ (fuel rounds : Nat) (its : List OptItem) (opts : Opts), (∀ it ∈ its, ItemOK o it) →
      its.length < fuel → its.length < rounds →
      parseOptions o fuel rounds (renderOpts its ++ rest) opts =
        (match seqSpec o its opts with
          | .ok opts' => .ok (opts', rest)
          | .error s => .error (.optionTwice s)) := by
  have hrounds : Tables.optionRounds = none := rfl
  intro fuel
  induction fuel with
  | zero => intro rounds its opts _ h; omega
  | succ fuel ih =>
    intro rounds its opts hok hf hr
    obtain ⟨rounds, rfl⟩ : ∃ r, rounds = r + 1 := ⟨rounds - 1, by omega⟩
    cases its with
    | nil => simp [parseOptions, renderOpts, hrounds, hrest, seqSpec]
    | cons it its' =>
      have hit := hok it List.mem_cons_self
      have hkw : optionKw (renderOpts (it :: its') ++ rest) = some it.kw := by
        have := optionKw_render it (renderOpts its' ++ rest) hit.1
        simpa [renderOpts, List.append_assoc] using this
      unfold parseOptions
      simp only [hrounds, hkw, Option.isNone_none, Option.isNone_some, Bool.and_false, Bool.false_eq_true, if_false]
      rcases optionRound_seq o rest hrest Tables.optionOrder (it :: its') opts hok with ⟨s, h1, h2⟩ | ⟨opts', j, h1, h2, h3⟩
      · rw [h1, h2]
      -- a full round tries every keyword, the head option's among them: that option at least is gone, paying for fuel and rounds
      · have hj := h3 it its' rfl hit.1
        rw [h1, h2]
        simp only
        refine ih rounds ((it :: its').drop j) opts' (fun x hx => hok x (List.mem_of_mem_drop hx)) ?_ ?_
        · simp only [List.length_drop, List.length_cons] at hf ⊢; omega
        · simp only [List.length_drop, List.length_cons] at hr ⊢; omega

/-! ### what reading in order gives -/

theorem isSet_apply (o : Oracle) (opts : Opts) (it : OptItem) (hok : ItemOK o it) (kw : String) (hkw : kw ∈ Tables.optionOrder) :
    isSet (applyItem o opts it) kw = (isSet opts kw || decide (kw = it.kw)) := by
  obtain ⟨hmem, hp, hb⟩ := hok
  rcases mem_optionOrder _ hmem with h | h | h | h
  · obtain ⟨n, hn⟩ := Option.isSome_iff_exists.1 (hp h)
    rcases mem_optionOrder _ hkw with h' | h' | h' | h' <;> simp [isSet, applyItem, h, h', hn]
  · rcases mem_optionOrder _ hkw with h' | h' | h' | h' <;> simp [isSet, applyItem, h, h']
  · obtain ⟨n, hn⟩ := Option.isSome_iff_exists.1 (hb (.inl h))
    rcases mem_optionOrder _ hkw with h' | h' | h' | h' <;> simp [isSet, applyItem, h, h', hn]
  · obtain ⟨n, hn⟩ := Option.isSome_iff_exists.1 (hb (.inr h))
    rcases mem_optionOrder _ hkw with h' | h' | h' | h' <;> simp [isSet, applyItem, h, h', hn]
theorem seqSpec_ok (o : Oracle) : ∀ (its : List OptItem) (opts : Opts), (∀ it ∈ its, ItemOK o it) →
    (its.map (·.kw)).Nodup → (∀ it ∈ its, isSet opts it.kw = false) →
    seqSpec o its opts = .ok (its.foldl (applyItem o) opts) := by
  intro its
  induction its with
  | nil => intro opts _ _ _; rfl
  | cons it its ih =>
    intro opts hok hnd hun
    simp only [List.map_cons, List.nodup_cons] at hnd
    simp only [seqSpec, hun it List.mem_cons_self, Bool.false_eq_true, if_false, List.foldl_cons]
    refine ih _ (fun x hx => hok x (List.mem_cons_of_mem _ hx)) hnd.2 ?_
    intro x hx
    rw [isSet_apply o opts it (hok it List.mem_cons_self) x.kw (hok x (List.mem_cons_of_mem _ hx)).1,
      hun x (List.mem_cons_of_mem _ hx)]
    have : x.kw ≠ it.kw := fun h => hnd.1 (by rw [← h]; exact List.mem_map_of_mem hx)
    simp [this]

theorem seqSpec_twice (o : Oracle) : ∀ (pre : List OptItem) (b : OptItem) (post : List OptItem) (opts : Opts),
    (∀ it ∈ pre, ItemOK o it) → b.kw ∈ Tables.optionOrder → (pre.map (·.kw)).Nodup → (∀ it ∈ pre, isSet opts it.kw = false) →
    (isSet opts b.kw = true ∨ b.kw ∈ pre.map (·.kw)) →
    seqSpec o (pre ++ b :: post) opts = .error (shortName b.kw) := by
  intro pre
  -- the disjunction is what the induction carries: reading the earlier copy of `b.kw` moves it from "in `pre`" to "set in `opts`"
  induction pre with
  | nil =>
    intro b post opts _ _ _ _ h
    rcases h with h | h
    · simp [seqSpec, h]
    · cases h
  | cons it pre ih =>
    intro b post opts hok hb hnd hun h
    simp only [List.map_cons, List.nodup_cons] at hnd
    simp only [List.cons_append, seqSpec, hun it List.mem_cons_self, Bool.false_eq_true, if_false]
    refine ih b post _ (fun x hx => hok x (List.mem_cons_of_mem _ hx)) hb hnd.2 ?_ ?_
    · intro x hx
      rw [isSet_apply o opts it (hok it List.mem_cons_self) x.kw (hok x (List.mem_cons_of_mem _ hx)).1,
        hun x (List.mem_cons_of_mem _ hx)]
      have : x.kw ≠ it.kw := fun h => hnd.1 (by rw [← h]; exact List.mem_map_of_mem hx)
      simp [this]
    · rw [isSet_apply o opts it (hok it List.mem_cons_self) b.kw hb]
      rcases h with h | h
      · exact Or.inl (by simp [h])
      · simp only [List.map_cons, List.mem_cons] at h
        rcases h with h | h
        · exact Or.inl (by simp [h])
        · exact Or.inr h

theorem isSet_default (kw : String) : isSet {} kw = false := by simp [isSet]

/-- `parseOptions_seq` at the fuel and round bound `parseMacroInput` gives the option loop -/
theorem parseOptions_rendered (o : Oracle) (its : List OptItem) (rest : Toks) (hok : ∀ it ∈ its, ItemOK o it)
    (hrest : optionKw rest = none) :
    parseOptions o ((renderOpts its ++ rest).length + 1) ((renderOpts its ++ rest).length + 1) (renderOpts its ++ rest) {} =
      (match seqSpec o its {} with
        | .ok opts' => .ok (opts', rest)
        | .error s => .error (.optionTwice s)) := by
  have hl : its.length < (renderOpts its ++ rest).length + 1 := by
    simp only [List.length_append, renderOpts_length]; omega
  exact parseOptions_seq o rest hrest _ _ its {} hok hl hl

theorem parseOptions_renderOpts (o : Oracle) (its : List OptItem) (rest : Toks) (hok : ∀ it ∈ its, ItemOK o it)
    (hnd : (its.map (·.kw)).Nodup) (hrest : optionKw rest = none) :
    parseOptions o ((renderOpts its ++ rest).length + 1) ((renderOpts its ++ rest).length + 1) (renderOpts its ++ rest) {} =
      .ok (its.foldl (applyItem o) {}, rest) := by
  rw [parseOptions_rendered o its rest hok hrest, seqSpec_ok o its {} hok hnd fun it _ => isSet_default _]

/-! ### options write different fields -/

def Opts.over (p s : Opts) : Opts :=
  { fcp := p.fcp.or s.fcp, joiner := p.joiner.or s.joiner, transpose := p.transpose.or s.transpose,
    lazy := p.lazy.or s.lazy, unexpected := s.unexpected || p.unexpected }

theorem applyItem_over (o : Oracle) (s : Opts) (it : OptItem) : applyItem o s it = (applyItem o {} it).over s := by
  unfold applyItem
  split
  · cases o.pathPrefix it.content <;> simp [Opts.over]
  · split
    · simp [Opts.over]
    · split <;> cases o.litBool it.content <;> simp [Opts.over]

theorem applyItem_empty (o : Oracle) (it : OptItem) (h : it.kw ∈ Tables.optionOrder) :
    ((applyItem o {} it).fcp = none ∨ it.kw = "futures_crate_path") ∧
    ((applyItem o {} it).joiner = none ∨ it.kw = "custom_joiner") ∧
    ((applyItem o {} it).transpose = none ∨ it.kw = "transpose_results") ∧
    ((applyItem o {} it).lazy = none ∨ it.kw = "lazy_branches") := by
  rcases mem_optionOrder _ h with h | h | h | h <;> simp only [applyItem, h] <;>
    cases o.pathPrefix it.content <;> cases o.litBool it.content <;> simp

theorem Opts.over_comm {p q : Opts} (s : Opts) (h1 : p.fcp = none ∨ q.fcp = none) (h2 : p.joiner = none ∨ q.joiner = none)
    (h3 : p.transpose = none ∨ q.transpose = none) (h4 : p.lazy = none ∨ q.lazy = none) :
    q.over (p.over s) = p.over (q.over s) := by
  simp only [Opts.over, Opts.mk.injEq, Bool.or_right_comm, and_true]
  exact ⟨by rcases h1 with h | h <;> simp [h], by rcases h2 with h | h <;> simp [h], by rcases h3 with h | h <;> simp [h],
    by rcases h4 with h | h <;> simp [h]⟩

theorem applyItem_comm_of_ne (o : Oracle) (opts : Opts) (a b : OptItem) (ha : a.kw ∈ Tables.optionOrder)
    (hb : b.kw ∈ Tables.optionOrder) (hne : a.kw ≠ b.kw) :
    applyItem o (applyItem o opts a) b = applyItem o (applyItem o opts b) a := by
  rw [applyItem_over o (applyItem o opts a) b, applyItem_over o (applyItem o opts b) a, applyItem_over o opts a,
    applyItem_over o opts b]
  obtain ⟨a1, a2, a3, a4⟩ := applyItem_empty o a ha
  obtain ⟨b1, b2, b3, b4⟩ := applyItem_empty o b hb
  have key {P Q : Prop} {k : String} (h1 : P ∨ a.kw = k) (h2 : Q ∨ b.kw = k) : P ∨ Q :=
    h1.elim .inl fun ha => h2.elim .inr fun hb => absurd (ha.trans hb.symm) hne
  exact Opts.over_comm opts (key a1 b1) (key a2 b2) (key a3 b3) (key a4 b4)

end JoinModel
