/-
  The hoisted definitions of a branch-step: closed form of `hoist` over the block operands of a member (`hoist_defs`),
  their keys (position, operand index) ascend, hence are distinct.
-/
import JoinModel.Lemmas.GenFacts
namespace JoinModel

def lex2 (a b : Nat × Nat) : Prop := a.1 < b.1 ∨ (a.1 = b.1 ∧ a.2 < b.2)

theorem lex2_ne {a b : Nat × Nat} (h : lex2 a b) : a ≠ b := by
  rintro rfl; rcases h with h | ⟨_, h⟩ <;> exact Nat.lt_irrefl _ h

def blockOps (m : Member) : List (Operand × Nat) :=
  if isReplaceable m.ctor && hasInner m.ctor then m.ops.zipIdx.filter fun oi => oi.1.kind = .block else []

theorem hoist_defs (b e : Nat) (m : Member) :
    (hoist b e m).1 = (blockOps m).map fun oi => ⟨b, e, oi.2, oi.1.toks⟩ := by
  unfold hoist blockOps
  split
  · show List.filterMap _ _ = _
    induction m.ops.zipIdx with
    | nil => rfl
    | cons oi l ih => by_cases h : oi.1.kind = .block <;> simp [h, ih]
  · rfl

theorem blockOps_idx_sorted (m : Member) : ((blockOps m).map (·.2)).Pairwise (· < ·) := by
  unfold blockOps
  split
  · exact List.Pairwise.sublist (List.filter_sublist.map _) (by rw [List.zipIdx_map_snd]; exact List.pairwise_lt_range')
  · exact .nil

theorem mem_hoist {b e : Nat} {m : Member} {d : CapDef} (h : d ∈ (hoist b e m).1) : d.b = b ∧ d.e = e := by
  rw [hoist_defs] at h
  obtain ⟨_, _, rfl⟩ := List.mem_map.mp h
  exact ⟨rfl, rfl⟩

theorem hoist_keys_sorted (b e : Nat) (m : Member) : ((hoist b e m).1.map fun d => (d.e, d.i)).Pairwise lex2 := by
  rw [hoist_defs, List.map_map, List.pairwise_map]
  exact (List.pairwise_map.mp (blockOps_idx_sorted m)).imp fun h => Or.inr ⟨rfl, h⟩

/-- what one member contributes to `capDefsOf` -/
theorem mem_capDefsOf_head {b e : Nat} {m : Member} {d : CapDef}
    (h : d ∈ (if m.mv = .none then (hoist b e m).1 else [])) : d.b = b ∧ d.e = e := by
  split at h
  · exact mem_hoist h
  · cases h

theorem mem_capDefsOf {b : Nat} {acts : List Member} {e : Nat} {d : CapDef} (h : d ∈ capDefsOf b acts e) :
    d.b = b ∧ e ≤ d.e := by
  induction acts generalizing e with
  | nil => cases h
  | cons m ms ih =>
    rcases List.mem_append.mp h with hd | hd
    · exact ⟨(mem_capDefsOf_head hd).1, Nat.le_of_eq (mem_capDefsOf_head hd).2.symm⟩
    · exact (ih hd).imp_right Nat.le_of_succ_le

theorem capDefsOf_keys (b b' : Nat) (acts : List Member) (e : Nat) :
    (capDefsOf b acts e).map (fun d => (d.e, d.i)) = (capDefsOf b' acts e).map (fun d => (d.e, d.i)) := by
  induction acts generalizing e with
  | nil => simp [capDefsOf]
  | cons m ms ih =>
    simp only [capDefsOf, List.map_append, ih (e + 1)]
    split <;> simp [hoist_defs]

theorem capDefsOf_sorted (b : Nat) (acts : List Member) (e : Nat) :
    ((capDefsOf b acts e).map (fun d => (d.e, d.i))).Pairwise lex2 := by
  induction acts generalizing e with
  | nil => simp [capDefsOf]
  | cons m ms ih =>
    simp only [capDefsOf, List.map_append]
    refine List.pairwise_append.mpr ⟨?_, ih (e + 1), ?_⟩
    · split
      · exact hoist_keys_sorted b e m
      · exact .nil
    · intro x hx y hy
      obtain ⟨d, hd, rfl⟩ := List.mem_map.mp hx
      obtain ⟨d', hd', rfl⟩ := List.mem_map.mp hy
      exact Or.inl (by rw [(mem_capDefsOf_head hd).2]; exact (mem_capDefsOf hd').2)

theorem capDefsOf_keys_nodup (b : Nat) (acts : List Member) (e : Nat) :
    ((capDefsOf b acts e).map (fun d => (d.e, d.i))).Nodup :=
  (capDefsOf_sorted b acts e).imp lex2_ne

end JoinModel
