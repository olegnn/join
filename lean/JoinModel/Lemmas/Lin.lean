/-
  Schedules of the thread-spawning macros.  The evaluators produce the calling thread's program order, a fork carrying the
  complete event list of its thread (`MEv`).  `Lin main run t`: `t` is one possible global order of events — the caller's
  events in program order, each forked thread's events in its own order anywhere after its fork, a join only once the
  joined thread has finished.

  `barrier`: a step forks all active branches, joins them all, continues; so every schedule is an interleaving of exactly
  these threads' bodies, then a schedule of what follows the joins.  It is read off two inversions: a fork may be moved in
  front of everything the caller does next (`Lin.of_forks`; converse: `Props.C08.lin_forks`), and joining all running
  threads waits for an interleaving of their bodies (`Lin.of_joins`; converse: `Shuffle.lin`).
-/
import JoinModel.Sem
namespace JoinModel

abbrev Tid := Nat × Nat        -- (branch, step)

/-- an event in a global order; `tid = none`: the calling thread -/
structure TEv where
  tid : Option Tid
  ev : Ev
  deriving DecidableEq, Repr

inductive Lin : List MEv → List (Tid × List Ev) → List TEv → Prop
  /-- the caller is done; threads that were never joined (the caller panicked) are simply left behind -/
  | done (run : List (Tid × List Ev)) : Lin [] run []
  | mainEv (e : Ev) (rest : List MEv) (run : List (Tid × List Ev)) (t : List TEv) :
      Lin rest run t → Lin (.ev e :: rest) run (⟨none, e⟩ :: t)
  | fork (b k : Nat) (name : String) (body : List Ev) (rest : List MEv) (run : List (Tid × List Ev)) (t : List TEv) :
      Lin rest (run ++ [((b, k), body)]) t → Lin (.fork b k name body :: rest) run t
  | thr (main : List MEv) (r1 r2 : List (Tid × List Ev)) (tid : Tid) (e : Ev) (es : List Ev) (t : List TEv) :
      Lin main (r1 ++ (tid, es) :: r2) t → Lin main (r1 ++ (tid, e :: es) :: r2) (⟨some tid, e⟩ :: t)
  | join (b k : Nat) (rest : List MEv) (r1 r2 : List (Tid × List Ev)) (t : List TEv) :
      Lin rest (r1 ++ r2) t → Lin (.join b k :: rest) (r1 ++ ((b, k), []) :: r2) t

/-- `t` interleaves exactly the remaining bodies of `run` (each in its own order, all to the end) -/
inductive Shuffle : List (Tid × List Ev) → List TEv → Prop
  | done (run : List (Tid × List Ev)) : (∀ x ∈ run, x.2 = []) → Shuffle run []
  | step (r1 r2 : List (Tid × List Ev)) (tid : Tid) (e : Ev) (es : List Ev) (t : List TEv) :
      Shuffle (r1 ++ (tid, es) :: r2) t → Shuffle (r1 ++ (tid, e :: es) :: r2) (⟨some tid, e⟩ :: t)

def forksOf (fs : List (Tid × String × List Ev)) : List MEv := fs.map fun f => .fork f.1.1 f.1.2 f.2.1 f.2.2
def joinsOf (js : List Tid) : List MEv := js.map fun j => .join j.1 j.2
def asRun (fs : List (Tid × String × List Ev)) : List (Tid × List Ev) := fs.map fun f => (f.1, f.2.2)

/-! ### where the events of a schedule come from -/

def MEv.evs : MEv → List Ev
  | .ev e => [e]
  | .fork _ _ _ body => body
  | .join _ _ => []

theorem Lin.mem_evs {m : List MEv} {run : List (Tid × List Ev)} {t : List TEv} (h : Lin m run t) :
    ∀ e ∈ t, e.ev ∈ m.flatMap MEv.evs ∨ e.ev ∈ run.flatMap (·.2) := by
  induction h with
  | done run => intro _ h; cases h
  | mainEv e rest run t _ ih =>
    intro x hx
    rw [List.flatMap_cons]
    rcases List.mem_cons.mp hx with rfl | hx
    · exact Or.inl List.mem_cons_self
    · exact (ih x hx).imp_left (List.mem_cons_of_mem _)
  | fork b k name body rest run t _ ih =>
    intro x hx
    rw [List.flatMap_cons, List.mem_append]
    rcases ih x hx with h | h
    · exact Or.inl (Or.inr h)
    -- in the premise the forked thread counts as running; in the conclusion its body belongs to the fork event
    · rw [List.flatMap_append, List.mem_append] at h
      exact h.elim Or.inr fun h => Or.inl (Or.inl (by simpa [MEv.evs] using h))
  | thr main r1 r2 tid e es t _ ih =>
    intro x hx
    rw [List.flatMap_append, List.flatMap_cons, List.mem_append, List.mem_append]
    rcases List.mem_cons.mp hx with rfl | hx
    · exact Or.inr (Or.inr (Or.inl List.mem_cons_self))
    · refine (ih x hx).imp_right fun h => ?_
      rw [List.flatMap_append, List.flatMap_cons, List.mem_append, List.mem_append] at h
      exact h.imp_right (Or.imp_left (List.mem_cons_of_mem _))
  | join b k rest r1 r2 t _ ih =>
    intro x hx
    refine (ih x hx).imp id fun h => ?_
    rw [List.flatMap_append] at h ⊢
    exact h

theorem Lin.events (m : List MEv) (run : List (Tid × List Ev)) (t : List TEv) (h : Lin m run t) :
    ∀ e ∈ t, (MEv.ev e.ev ∈ m) ∨ (∃ b k n body, MEv.fork b k n body ∈ m ∧ e.ev ∈ body) ∨ (∃ r ∈ run, e.ev ∈ r.2) := by
  intro e he
  rcases h.mem_evs e he with h | h
  · obtain ⟨x, hx, hex⟩ := List.mem_flatMap.mp h
    cases x with
    | ev e' => exact Or.inl (List.mem_singleton.mp hex ▸ hx)
    | fork b k n body => exact Or.inr (Or.inl ⟨b, k, n, body, hx, hex⟩)
    | join b k => cases hex
  · exact Or.inr (Or.inr (List.mem_flatMap.mp h))

theorem Shuffle.lin {run : List (Tid × List Ev)} {t : List TEv} (h : Shuffle run t) :
    Lin (joinsOf (run.map Prod.fst)) run t := by
  induction h with
  | done run hall =>
    induction run with
    | nil => exact Lin.done []
    | cons x xs ih =>
      obtain ⟨⟨b, k⟩, body⟩ := x
      cases hall ((b, k), body) List.mem_cons_self
      exact Lin.join b k _ [] xs [] (ih fun y hy => hall y (List.mem_cons_of_mem _ hy))
  | step r1 r2 tid e es t' _ ih =>
    have hfst : (r1 ++ (tid, e :: es) :: r2).map Prod.fst = (r1 ++ (tid, es) :: r2).map Prod.fst := by simp
    exact hfst ▸ Lin.thr _ r1 r2 tid e es t' ih

theorem Shuffle.events (run : List (Tid × List Ev)) (t : List TEv) (h : Shuffle run t) :
    ∀ e ∈ t, ∃ r ∈ run, e.ev ∈ r.2 := by
  intro e he
  rcases h.lin.mem_evs e he with h | h
  · obtain ⟨x, hx, hex⟩ := List.mem_flatMap.mp h
    obtain ⟨_, -, rfl⟩ := List.mem_map.mp hx
    cases hex
  · exact List.mem_flatMap.mp h

/-! ### the caller's own events, with no thread running -/

def AllEv (m : List MEv) : Prop := ∀ x ∈ m, ∃ e, x = .ev e

def mainTEvs (m : List MEv) : List TEv := m.filterMap fun x => match x with | .ev e => some ⟨none, e⟩ | _ => none

theorem mem_mainTEvs {m : List MEv} {e : TEv} (h : e ∈ mainTEvs m) : MEv.ev e.ev ∈ m := by
  obtain ⟨x, hx, hxe⟩ := List.mem_filterMap.mp h
  cases x <;> simp at hxe
  subst hxe
  exact hx

theorem Lin.of_ev {e : Ev} {main m : List MEv} {run : List (Tid × List Ev)} {t : List TEv} (h : Lin main run t)
    (hm : main = .ev e :: m) (hr : run = []) : ∃ t', t = ⟨none, e⟩ :: t' ∧ Lin m [] t' := by
  cases h with
  | mainEv _ _ _ t' h' => cases hm; exact ⟨t', rfl, hr ▸ h'⟩
  | thr => exact absurd hr (by simp)
  | _ => cases hm

theorem Lin.main_prefix (a rest : List MEv) (t : List TEv) (ha : AllEv a) (h : Lin (a ++ rest) [] t) :
    ∃ t', t = mainTEvs a ++ t' ∧ Lin rest [] t' := by
  induction a generalizing t with
  | nil => exact ⟨t, rfl, h⟩
  | cons x a ih =>
    obtain ⟨e, rfl⟩ := ha x List.mem_cons_self
    obtain ⟨t', rfl, h'⟩ := h.of_ev rfl rfl
    obtain ⟨t'', rfl, h2⟩ := ih t' (fun y hy => ha y (List.mem_cons_of_mem _ hy)) h'
    exact ⟨t'', rfl, h2⟩

/-! ### fork all, join all -/

theorem Shuffle.add_finished (run : List (Tid × List Ev)) (tid : Tid) (t : List TEv) (h : Shuffle run t) :
    Shuffle ((tid, []) :: run) t := by
  induction h with
  | done run hall => exact .done _ fun x hx => (List.mem_cons.mp hx).elim (fun h => h ▸ rfl) (hall x)
  | step q1 q2 tid' e es t' _ ih => exact .step ((tid, []) :: q1) q2 tid' e es t' ih

theorem Lin.of_fork {b k : Nat} {name : String} {body : List Ev} {main m : List MEv} {run : List (Tid × List Ev)}
    {t : List TEv} (h : Lin main run t) (hm : main = .fork b k name body :: m) : Lin m (run ++ [((b, k), body)]) t := by
  induction h with
  | fork _ _ _ _ _ _ _ h' => cases hm; exact h'
  | thr main r1 r2 tid e es t _ ih =>
    rw [List.append_assoc, List.cons_append]
    exact .thr _ _ _ _ _ _ _ (by simpa using ih hm)
  | _ => cases hm

theorem Lin.of_forks {fs : List (Tid × String × List Ev)} {m : List MEv} {run : List (Tid × List Ev)} {t : List TEv}
    (h : Lin (forksOf fs ++ m) run t) : Lin m (run ++ asRun fs) t := by
  induction fs generalizing run with
  | nil => simpa [asRun, forksOf] using h
  | cons f fs ih => simpa [asRun] using ih (h.of_fork rfl)

theorem Lin.of_joins {main : List MEv} {run : List (Tid × List Ev)} {t : List TEv} (h : Lin main run t) :
    run ≠ [] → ∀ rest, main = joinsOf (run.map Prod.fst) ++ rest → (run.map Prod.fst).Nodup →
      ∃ t1 t2, t = t1 ++ t2 ∧ Shuffle run t1 ∧ Lin rest [] t2 := by
  -- while a thread is running the caller's next step is a join
  have hd : ∀ {main rest : List MEv} {run : List (Tid × List Ev)}, run ≠ [] →
      main = joinsOf (run.map Prod.fst) ++ rest → ∃ b k m, main = .join b k :: m := by
    intro main rest run hr hm
    cases run with
    | nil => exact absurd rfl hr
    | cons y ys => exact ⟨_, _, _, hm⟩
  induction h with
  | done | mainEv | fork => intro hr rest hm; obtain ⟨_, _, _, h⟩ := hd hr hm; cases h
  | thr main r1 r2 tid e es t' _ ih =>
    intro _ rest hm hnd
    have hfst : (r1 ++ (tid, e :: es) :: r2).map Prod.fst = (r1 ++ (tid, es) :: r2).map Prod.fst := by simp
    rw [hfst] at hm hnd
    obtain ⟨t1, t2, rfl, h2, h3⟩ := ih (by simp) rest hm hnd
    exact ⟨_ :: t1, t2, rfl, .step r1 r2 tid e es t1 h2, h3⟩
  | join b k rest' r1 r2 t' h' ih =>
    intro _ rest hm hnd
    cases r1 with
    | cons x xs =>
      -- the joined thread is the first running one
      injection (List.cons.inj hm).1 with hb hk
      exact absurd (List.mem_map_of_mem (f := Prod.fst) (List.mem_append_right xs List.mem_cons_self))
        ((Prod.ext hb hk : (b, k) = x.1) ▸ (List.nodup_cons.mp hnd).1)
    | nil =>
      have hm' : rest' = joinsOf (r2.map Prod.fst) ++ rest := (List.cons.inj hm).2
      cases r2 with
      | nil => exact ⟨[], t', rfl, .done _ (by simp), (show rest' = rest from hm') ▸ h'⟩
      | cons y ys =>
        obtain ⟨t1, t2, h1, h2, h3⟩ := ih (List.cons_ne_nil _ _) rest hm' (List.nodup_cons.mp hnd).2
        -- a shuffle of the others is one of `run` too: the joined thread had nothing left to run
        exact ⟨t1, t2, h1, h2.add_finished _ _ _, h3⟩

/-- **Barrier**: no event of `rest` — the later steps — precedes any event of the threads `fs`. -/
theorem barrier (fs : List (Tid × String × List Ev)) (rest : List MEv) (t : List TEv)
    (hnd : ((asRun fs).map Prod.fst).Nodup)
    (h : Lin (forksOf fs ++ joinsOf ((asRun fs).map Prod.fst) ++ rest) [] t) :
    ∃ t1 t2, t = t1 ++ t2 ∧ Shuffle (asRun fs) t1 ∧ Lin rest [] t2 := by
  rw [List.append_assoc] at h
  have h' := h.of_forks
  rw [List.nil_append] at h'
  cases hfs : asRun fs with
  | nil => rw [hfs] at h'; exact ⟨[], t, rfl, .done _ (by simp), h'⟩
  | cons x xs => exact hfs ▸ h'.of_joins (by simp [hfs]) rest rfl hnd

end JoinModel
