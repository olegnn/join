/-
  Running a list of computations one after the other: `M.seq` (all of them) and `M.seqTry` (up to the first value that is
  not a success).  The block captures, the chains and the joins of the reference semantics and the operands of a
  generated join expression are such lists (`specCapsAll_eq_seq`, … , `evalElems_eq_seq`), so what holds of every
  `M.seq` — lengths, events, the first panic — is proved once.
-/
import JoinModel.Spec
import JoinModel.Lemmas.Basic
namespace JoinModel
namespace M

def seq {α} : List (M α) → M (List α)
  | [] => M.ret []
  | m :: ms => m.andThen fun a => (seq ms).andThen fun as => M.ret (a :: as)

theorem seq_res_ok {α} {ms : List (M α)} {as : List α} :
    (seq ms).res = .ok as ↔ ms.map (·.res) = as.map .ok := by
  induction ms generalizing as with
  | nil => cases as <;> simp [seq, M.ret]
  | cons m ms ih =>
    constructor
    · intro h
      obtain ⟨a, ha, h⟩ := andThen_res_ok h
      obtain ⟨as', has, h⟩ := andThen_res_ok h
      cases h
      simp [ha, ih.mp has]
    · intro h
      cases as with
      | nil => simp at h
      | cons a as =>
        simp only [List.map_cons, List.cons.injEq] at h
        rw [seq, (andThen_trace_ok h.1).2, (andThen_trace_ok (ih.mpr h.2)).2]; rfl

theorem seq_length {α} {ms : List (M α)} {as : List α} (h : (seq ms).res = .ok as) : as.length = ms.length := by
  simpa using (congrArg List.length (seq_res_ok.mp h)).symm

theorem seq_getElem {α} {ms : List (M α)} {as : List α} (h : (seq ms).res = .ok as) (i : Nat) (hi : i < ms.length) :
    ms[i].res = .ok (as[i]'(seq_length h ▸ hi)) := by
  have := congrArg (·[i]?) (seq_res_ok.mp h)
  simpa [hi, seq_length h] using this

theorem seq_trace {α} (ms : List (M α)) :
    ∃ n, n ≤ ms.length ∧ (seq ms).trace = (ms.take n).flatMap (·.trace) ∧ ((∃ as, (seq ms).res = .ok as) → n = ms.length) := by
  induction ms with
  | nil => exact ⟨0, Nat.le_refl _, rfl, fun _ => rfl⟩
  | cons m ms ih =>
    obtain ⟨n, hn, htr, hok⟩ := ih
    rw [seq]
    rcases andThen_cases m (fun a => (seq ms).andThen fun as => M.ret (a :: as)) with ⟨a, -, ht, hr⟩ | ⟨-, ht, hr⟩
    · refine ⟨n + 1, Nat.succ_le_succ hn, ?_, fun ⟨as, h⟩ => ?_⟩
      · rw [ht, List.take_succ_cons, List.flatMap_cons, ← htr]
        rcases andThen_cases (seq ms) (fun as => M.ret (a :: as)) with ⟨as, -, ht', -⟩ | ⟨-, ht', -⟩ <;> rw [ht']
        simp [M.ret]
      · rw [hr] at h
        obtain ⟨as', has, -⟩ := andThen_res_ok h
        rw [hok ⟨as', has⟩, List.length_cons]
    · exact ⟨1, by simp, by rw [ht]; simp, fun ⟨as, h⟩ => absurd h (hr as)⟩

theorem seq_trace_ok {α} {ms : List (M α)} {as : List α} (h : (seq ms).res = .ok as) :
    (seq ms).trace = ms.flatMap (·.trace) := by
  obtain ⟨n, _, htr, hok⟩ := seq_trace ms
  rw [htr, hok ⟨as, h⟩, List.take_length]

theorem mem_seq_trace {α} {ms : List (M α)} {e : MEv} (h : e ∈ (seq ms).trace) : ∃ m ∈ ms, e ∈ m.trace := by
  obtain ⟨n, _, hn, _⟩ := seq_trace ms
  rw [hn, List.mem_flatMap] at h
  obtain ⟨m, hm, he⟩ := h
  exact ⟨m, List.mem_of_mem_take hm, he⟩

theorem seq_panic {α} {ms : List (M α)} (hp : ∃ m ∈ ms, ∃ s, m.res = .panic s) (hns : ∀ m ∈ ms, m.res ≠ .stuck) :
    ∃ m ∈ ms, ∃ s, m.res = .panic s ∧ (seq ms).res = .panic s := by
  induction ms with
  | nil => obtain ⟨m, hm, _⟩ := hp; cases hm
  | cons m ms ih =>
    cases hm : m.res with
    | panic s => exact ⟨m, List.mem_cons_self, s, hm, (andThen_res_panic hm).1⟩
    | stuck => exact absurd hm (hns m List.mem_cons_self)
    | ok a =>
      obtain ⟨m', hm', s, hs, hseq⟩ := ih
        (by
          obtain ⟨m', hm', s, hs⟩ := hp
          rcases List.mem_cons.mp hm' with rfl | hm'
          · rw [hm] at hs; cases hs
          · exact ⟨m', hm', s, hs⟩)
        (fun m' hm' => hns m' (List.mem_cons_of_mem _ hm'))
      exact ⟨m', List.mem_cons_of_mem _ hm', s, hs, by rw [seq, (andThen_trace_ok hm).2, (andThen_res_panic hseq).1]⟩

theorem seq_user_panic {ι α} {xs : List ι} {f : ι → M α} {u : ι → UR α} (hf : ∀ x, (f x).res = (u x).toRes)
    (h : ∃ x ∈ xs, ∃ n, u x = .panic n) : ∃ n, (seq (xs.map f)).res = .panic (.user n) := by
  obtain ⟨x, hx, n, hn⟩ := h
  obtain ⟨m, hm, s, hs, hseq⟩ := seq_panic (ms := xs.map f)
    ⟨_, List.mem_map_of_mem hx, .user n, by rw [hf, hn]; rfl⟩
    (fun m hm => by obtain ⟨y, -, rfl⟩ := List.mem_map.mp hm; rw [hf]; exact UR.toRes_ne_stuck _)
  obtain ⟨y, -, rfl⟩ := List.mem_map.mp hm
  obtain ⟨n', rfl⟩ := UR.toRes_eq_panic (hf y ▸ hs)
  exact ⟨n', hseq⟩

def seqTry : List (M Value) → M (Except Value (List Value))
  | [] => M.ret (.ok [])
  | m :: ms => m.andThen fun v =>
    match v with
    | .succ p => (seqTry ms).andThen fun r => M.ret (r.map (p :: ·))
    | f => M.ret (.error f)

theorem seqTry_ok {ms : List (M Value)} {ps : List Value} (h : (seqTry ms).res = .ok (.ok ps)) :
    ps.length = ms.length := by
  induction ms generalizing ps with
  | nil => cases h; rfl
  | cons m ms ih =>
    obtain ⟨v, -, h⟩ := andThen_res_ok h
    cases v with
    | succ p =>
      obtain ⟨r, hr, h⟩ := andThen_res_ok h
      cases r with
      | error f => cases h
      | ok ps' => cases h; simp [ih hr]
    | _ => cases h

theorem seqTry_error {ms : List (M Value)} {f : Value} (h : (seqTry ms).res = .ok (.error f)) :
    f.isSucc = false ∧ ∃ pre, ∃ m ∈ ms, m.res = .ok f ∧ (seqTry ms).trace = pre ++ m.trace := by
  induction ms with
  | nil => cases h
  | cons m ms ih =>
    obtain ⟨v, hv, h⟩ := andThen_res_ok h
    rw [seqTry, (andThen_trace_ok hv).1]
    cases v with
    | succ p =>
      obtain ⟨r, hr, h⟩ := andThen_res_ok h
      cases r with
      | ok ps => cases h
      | error f' =>
        cases h
        obtain ⟨hf, pre, m', hm', hres, htr⟩ := ih hr
        refine ⟨hf, m.trace ++ pre, m', List.mem_cons_of_mem _ hm', hres, ?_⟩
        show _ ++ ((seqTry ms).andThen _).trace = _
        rw [(andThen_trace_ok hr).1, htr]
        simp [M.ret]
    | _ => cases h; exact ⟨rfl, [], m, List.mem_cons_self, hv, by simp [M.ret]⟩

end M

/-! ### the lists of the reference semantics and of the generated code -/

def capM (sc : SpecCfg) (k b : Nat) (vis : List (String × Value)) (ei : Nat × Nat) : M Value :=
  (M.tell [.ev (.cap b k ei.1 ei.2 vis)]).andThen fun _ => M.lift (sc.σ.capture b k ei.1 ei.2 vis).toRes

def chainM (sc : SpecCfg) (k : Nat) (vals : List (Option Value)) (vis : List (String × Value)) (bc : Nat × List Value) :
    M Value :=
  ⟨(chainEvents bc.1 k (sc.σ.chain bc.1 k (specPrev sc vals bc.1 k) bc.2 vis)).map .ev,
    (sc.σ.chain bc.1 k (specPrev sc vals bc.1 k) bc.2 vis).res.toRes⟩

def joinM (k : Nat) (bo : Nat × ChainOut) : M Value :=
  (M.tell [.join bo.1 k]).andThen fun _ =>
    M.lift (match bo.2.res with | .ok v => .ok v | .panic _ => .panic (.joinUnwrap bo.1 k))

theorem specCapsBranch_eq_seq (sc : SpecCfg) (k b : Nat) (vis : List (String × Value)) (keys : List (Nat × Nat)) :
    specCapsBranch sc k b vis keys = M.seq (keys.map (capM sc k b vis)) := by
  induction keys with
  | nil => rfl
  | cons ei keys ih => simp only [specCapsBranch, List.map_cons, M.seq, capM, M.andThen_assoc, ih]

theorem specCapsAll_eq_seq (sc : SpecCfg) (k : Nat) (vis : List (String × Value)) (bs : List Nat) :
    specCapsAll sc k vis bs = M.seq (bs.map fun b => specCapsBranch sc k b vis (capKeys (sc.acts b k))) := by
  induction bs with
  | nil => rfl
  | cons b bs ih => simp only [specCapsAll, List.map_cons, M.seq, ih]

theorem specChainsSeq_eq_seq (sc : SpecCfg) (k : Nat) (vals : List (Option Value)) (vis : List (String × Value))
    (bcs : List (Nat × List Value)) : specChainsSeq sc k vals vis bcs = M.seq (bcs.map (chainM sc k vals vis)) := by
  induction bcs with
  | nil => rfl
  | cons bc bcs ih => simp only [specChainsSeq, List.map_cons, M.seq, chainM, ih]

theorem specJoins_eq_seq (k : Nat) (outs : List (Nat × ChainOut)) : specJoins k outs = M.seq (outs.map (joinM k)) := by
  induction outs with
  | nil => rfl
  | cons bo outs ih =>
    simp only [specJoins, List.map_cons, M.seq, joinM, M.andThen_assoc, ih]
    cases bo.2.res <;> simp

theorem evalElems_eq_seq (c : EvalCfg) (k : Nat) (env : Env) (es : List Elem) :
    evalElems c k env es = M.seq (es.map (evalElem c k env)) := by
  induction es with
  | nil => rfl
  | cons e es ih => simp only [evalElems, List.map_cons, M.seq, ih]

theorem evalElemsTry_eq_seqTry (c : EvalCfg) (k : Nat) (env : Env) (es : List Elem) :
    evalElemsTry c k env es = M.seqTry (es.map (evalElem c k env)) := by
  induction es with
  | nil => rfl
  | cons e es ih =>
    simp only [evalElemsTry, List.map_cons, M.seqTry, ih]
    congr 1

end JoinModel
