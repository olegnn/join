/-
  Facts about lists, association lists, `if` and `Except` that mention nothing of the model.
-/
namespace JoinModel

theorem lookup_eq_none_of_not_mem {α β} [BEq α] [LawfulBEq α] (k : α) (l : List (α × β))
    (h : k ∉ l.map Prod.fst) : l.lookup k = none :=
  List.lookup_eq_none_iff.mpr fun p hp => bne_iff_ne.mpr fun hk => h (hk ▸ List.mem_map_of_mem hp)

theorem lookup_of_mem_nodup {α β} [BEq α] [LawfulBEq α] {l : List (α × β)} (hnd : (l.map Prod.fst).Nodup)
    {k : α} {v : β} (h : (k, v) ∈ l) : l.lookup k = some v := by
  induction l with
  | nil => cases h
  | cons p l ih =>
    obtain ⟨hp, hnd⟩ := List.nodup_cons.mp hnd
    rcases List.mem_cons.mp h with rfl | h
    · exact List.lookup_cons_self
    · have : (k == p.1) = false := beq_false_of_ne fun hk => hp (hk ▸ List.mem_map_of_mem (f := Prod.fst) h)
      rw [List.lookup_cons, this]
      exact ih hnd h

theorem lookup_zip_of_nodup {α β} [BEq α] [LawfulBEq α] (ks : List α) (vs : List β) (hl : ks.length = vs.length)
    (hnd : ks.Nodup) (i : Nat) (hi : i < ks.length) :
    (ks.zip vs).lookup ks[i] = some (vs[i]'(hl ▸ hi)) :=
  lookup_of_mem_nodup (by rwa [List.map_fst_zip (Nat.le_of_eq hl)])
    (List.mem_iff_getElem.mpr ⟨i, by simp [hi, ← hl], List.getElem_zip⟩)

theorem lookup_mem {α β} [BEq α] [LawfulBEq α] {a : α} {b : β} {l : List (α × β)} (h : l.lookup a = some b) : (a, b) ∈ l := by
  obtain ⟨l₁, l₂, rfl, -⟩ := List.lookup_eq_some_iff.mp h
  exact List.mem_append_right _ List.mem_cons_self

theorem flatMap_filter {α β} (l : List α) (p : α → Bool) (f : α → List β) (h : ∀ x ∈ l, p x = false → f x = []) :
    (l.filter p).flatMap f = l.flatMap f := by
  induction l with
  | nil => rfl
  | cons x l ih =>
    have ih := ih fun y hy => h y (List.mem_cons_of_mem _ hy)
    cases hp : p x
    · rw [List.filter_cons_of_neg (by simp [hp]), List.flatMap_cons, h x List.mem_cons_self hp, ih, List.nil_append]
    · rw [List.filter_cons_of_pos hp, List.flatMap_cons, List.flatMap_cons, ih]

theorem filterMap_zip_eq {α β γ} (l : List α) (m : List β) (hl : l.length = m.length) (f : α → Option γ)
    (g : α × β → Option γ) (h : ∀ i (h1 : i < l.length), f l[i] = g (l[i], m[i]'(hl ▸ h1))) :
    l.filterMap f = (l.zip m).filterMap g := by
  induction l generalizing m with
  | nil => simp
  | cons a l ih =>
    cases m with
    | nil => simp at hl
    | cons b m =>
      have h0 := h 0 (by simp)
      simp only [List.getElem_cons_zero] at h0
      simp only [List.filterMap_cons, List.zip_cons_cons, h0]
      rw [ih m (by simpa using hl) (fun i h1 => h (i + 1) (by simp; omega))]

theorem sorted_getElem_le {l : List Nat} (h : l.Pairwise (· < ·)) {p q : Nat} (hp : p < l.length) (hq : q < l.length)
    (hpq : p ≤ q) : l[p] ≤ l[q] := by
  rcases Nat.lt_or_eq_of_le hpq with hlt | rfl
  · exact Nat.le_of_lt (List.pairwise_iff_getElem.mp h p q hp hq hlt)
  · exact Nat.le_refl _

theorem filterMap_const {α β} {f : α → Option β} {l : List α} {c : β} (h : ∀ a ∈ l, f a = some c) :
    ∀ x ∈ l.filterMap f, x = c := by
  intro x hx
  obtain ⟨a, ha, hs⟩ := List.mem_filterMap.mp hx
  rw [h a ha] at hs
  exact (Option.some.inj hs).symm

theorem foldl_max_le {l : List Nat} {a k : Nat} : l.foldl max a ≤ k ↔ a ≤ k ∧ ∀ d ∈ l, d ≤ k := by
  induction l generalizing a with
  | nil => simp
  | cons x l ih => simp only [List.foldl_cons, ih, List.mem_cons, forall_eq_or_imp, Nat.max_le, and_assoc]

theorem Except.bind_pure_ok {ε α β : Type} {x : Except ε α} {f : α → β} {t : β}
    (h : (do let e ← x; pure (f e)) = .ok t) : ∃ e, x = .ok e ∧ f e = t := by
  cases x with
  | error er => cases h
  | ok e => exact ⟨e, rfl, Except.ok.inj h⟩

theorem ite_intro {α} {P : α → Prop} {c : Prop} [Decidable c] {a b : α} (ha : P a) (hb : P b) : P (if c then a else b) := by
  split <;> assumption

theorem mapM_getElem {α} (pre l : List α) :
    (List.range' pre.length l.length).mapM (fun i => (pre ++ l)[i]?) = some l := by
  induction l generalizing pre with
  | nil => rfl
  | cons a l ih =>
    simp only [List.length_cons, List.range'_succ, List.mapM_cons]
    have h1 : (pre ++ a :: l)[pre.length]? = some a := by simp
    have h2 := ih (pre ++ [a])
    simp only [List.length_append, List.length_singleton, List.append_assoc, List.singleton_append] at h2
    rw [h1, h2]
    rfl

end JoinModel
