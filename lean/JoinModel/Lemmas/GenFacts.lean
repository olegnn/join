/-
  Structure of the generator's output: what a successful call of `splitSteps`, `genBranchStep`, `genElems`, `mkCtx`, `gen`,
  `genSteps`, `genStep` returns (inversion lemmas and induction principles); the errors of the step generator are internal.
-/
import JoinModel.Gen
import JoinModel.Lemmas.Nest
import JoinModel.Lemmas.ListFacts
namespace JoinModel

/-! ### splitSteps -/

theorem splitSteps_ne_nil (ms : List Member) : splitSteps ms ≠ [] := by
  induction ms with
  | nil => simp [splitSteps]
  | cons m ms ih =>
    simp only [splitSteps]
    cases h : splitSteps ms with
    | nil => exact absurd h ih
    | cons g gs => by_cases hd : m.deferred <;> simp [hd]

theorem splitSteps_cons (m : Member) (ms : List Member) : ∃ g gs, splitSteps ms = g :: gs ∧
    splitSteps (m :: ms) = if m.deferred then [] :: (m :: g) :: gs else (m :: g) :: gs := by
  cases h : splitSteps ms with
  | nil => exact absurd h (splitSteps_ne_nil ms)
  | cons g gs => exact ⟨g, gs, rfl, by rw [splitSteps, h]⟩

theorem splitSteps_tail_nonempty (ms : List Member) : ∀ g ∈ (splitSteps ms).tail, g ≠ [] := by
  induction ms with
  | nil => simp [splitSteps]
  | cons m ms ih =>
    obtain ⟨g, gs, h, h'⟩ := splitSteps_cons m ms
    rw [h] at ih
    rw [h']
    split <;> simpa using ih

theorem splitSteps_all_nonempty (m : Member) (ms : List Member) (hm : m.deferred = false) :
    ∀ g ∈ splitSteps (m :: ms), g ≠ [] := by
  obtain ⟨g, gs, h, h'⟩ := splitSteps_cons m ms
  have ht := splitSteps_tail_nonempty ms
  rw [h] at ht
  rw [h', hm]
  simpa using ht

theorem splitSteps_head (m : Member) (ms : List Member) (hm : m.deferred = false) :
    ∃ g gs, splitSteps (m :: ms) = (m :: g) :: gs := by
  obtain ⟨g, gs, -, h'⟩ := splitSteps_cons m ms
  exact ⟨g, gs, by rw [h', hm]; rfl⟩

theorem splitSteps_flatten (ms : List Member) : (splitSteps ms).flatten = ms := by
  induction ms with
  | nil => rfl
  | cons m ms ih =>
    obtain ⟨g, gs, h, h'⟩ := splitSteps_cons m ms
    rw [h] at ih
    rw [h']
    split <;> simp [← ih]

theorem splitSteps_mem (ms : List Member) :
    ∀ g ∈ splitSteps ms, (∀ m ∈ g, m ∈ ms) ∧ (∀ m ∈ g.tail, m ∈ ms.tail) := by
  have sub : ∀ ms, ∀ g ∈ splitSteps ms, ∀ m ∈ g, m ∈ ms := fun ms g hg m hm =>
    splitSteps_flatten ms ▸ List.mem_flatten.mpr ⟨g, hg, hm⟩
  intro g hg
  refine ⟨sub ms g hg, ?_⟩
  cases ms with
  | nil => cases List.mem_singleton.mp hg; simp
  | cons x xs =>
    obtain ⟨g0, gs, h, h'⟩ := splitSteps_cons x xs
    have hin : g = [] ∨ g = x :: g0 ∨ g ∈ gs := by
      rw [h'] at hg
      split at hg <;> simp only [List.mem_cons] at hg
      · exact hg
      · exact .inr hg
    rcases hin with rfl | rfl | hg'
    · simp
    · exact sub xs g0 (h ▸ List.mem_cons_self)
    · exact fun m hm => sub xs g (h ▸ List.mem_cons_of_mem _ hg') m (List.mem_of_mem_tail hm)

/-! ### ChainGen: hoisted definitions of a branch-step -/

theorem genBranchStep_none {a : Bool} {b : Nat} {prev : Var} {acts : List Member}
    (h : genBranchStep a b prev acts = .ok none) : acts = [] := by
  cases acts with
  | nil => rfl
  | cons m ms => obtain ⟨_, _, _, hr⟩ := genBranchStep_ok_iff.mp h; cases hr

theorem genBranchStep_some {a : Bool} {b : Nat} {prev : Var} {acts : List Member} {ds : List CapDef} {t : Toks}
    (h : genBranchStep a b prev acts = .ok (some (ds, t))) : acts ≠ [] ∧ ds = capDefsOf b acts 0 := by
  cases acts with
  | nil => cases h
  | cons m ms =>
    obtain ⟨o, ho, hc, hr⟩ := genBranchStep_ok_iff.mp h
    cases hr
    have := nestGo_defs ho
    rw [nestGo_open_rest ho hc] at this
    exact ⟨by simp, by simpa [capDefsOf] using this⟩

/-! ### genElems -/

/-- the semantically relevant fields of a join operand -/
def Elem.sem (e : Elem) : Nat × Bool × ElemWrap × Var × List Member := (e.b, e.lazy, e.wrap, e.prev, e.acts)

def Ctx.varOf (c : Ctx) (b : Nat) : Var := (c.pats[b]?.map (·.var)).getD (.r b)

def Ctx.multi (c : Ctx) (k : Nat) : Bool := decide (c.activeCount k > 1)

def Ctx.wrapOf (c : Ctx) (k b : Nat) : ElemWrap :=
  if c.multi k && c.kind.isSpawn then (if c.kind.isAsync then .tokio else .thread b) else .plain

@[elab_as_elim] theorem genElems_induct {c : Ctx} {k : Nat} {P : Nat → List (List Member) → List CapDef → List Elem → Prop}
    (nil : ∀ b, P b [] [] [])
    (skip : ∀ b rest ds es, P (b + 1) rest ds es → P b ([] :: rest) ds es)
    (cons : ∀ b acts rest d chain ds es, genBranchStep c.kind.isAsync b (c.varOf b) acts = .ok (some (d, chain)) →
      P (b + 1) rest ds es →
      P b (acts :: rest) (d ++ ds) (⟨b, c.multi k && c.lazy, c.wrapOf k b, c.varOf b, acts, chain⟩ :: es)) :
    ∀ {actss : List (List Member)} {b : Nat} {ds : List CapDef} {es : List Elem},
      genElems c k actss b = .ok (ds, es) → P b actss ds es := by
  intro actss
  induction actss with
  | nil => intro b ds es h; cases h; exact nil b
  | cons acts rest ih =>
    intro b ds es h
    simp only [genElems] at h
    split at h
    · cases h
    · rename_i r hr
      split at h
      · cases h
      · rename_i ds' es' hrest
        split at h <;> cases h
        · cases genBranchStep_none hr; exact skip b rest ds es (ih hrest)
        · exact cons b acts rest _ _ ds' es' hr (ih hrest)

theorem genElems_spec (c : Ctx) (k : Nat) (actss : List (List Member)) (b0 : Nat) (ds : List CapDef) (es : List Elem)
    (h : genElems c k actss b0 = .ok (ds, es)) :
    ds = (actss.zipIdx b0).flatMap (fun (ab : List Member × Nat) => capDefsOf ab.2 ab.1 0) ∧
    es.map Elem.sem = ((actss.zipIdx b0).filter (fun (ab : List Member × Nat) => !ab.1.isEmpty)).map
      (fun (ab : List Member × Nat) => (ab.2, c.multi k && c.lazy, c.wrapOf k ab.2, c.varOf ab.2, ab.1)) := by
  refine genElems_induct (fun _ => ⟨rfl, rfl⟩) (fun b rest ds es ih => ?_) (fun b acts rest d chain ds es hr ih => ?_) h
  · simpa [List.zipIdx_cons, capDefsOf] using ih
  · obtain ⟨hne, rfl⟩ := genBranchStep_some hr
    have hne' : acts.isEmpty = false := by cases acts <;> simp_all
    simp [List.zipIdx_cons, ih.1, ih.2, hne', Elem.sem]

/-! ### inversion of `mkCtx`, `gen`, `genSteps`, `genStep` -/

/-- what `JoinOutput::new` has checked when it accepts the configuration, and the context it builds -/
structure MkCtx (p : Input) (kd : Kind) (c : Ctx) : Prop where
  mapTry : p.isMapOrAndThen = true → kd.isTry = true
  thenNotTry : p.isThen = true → kd.isTry = false
  fcpAsync : p.fcp.isSome = true → kd.isAsync = true
  branches : p.branches ≠ []
  kind : c.kind = kd
  joiner : c.joiner = p.joiner
  fcp : c.fcp = (p.fcp <|> if kd.isAsync then some defaultFcp else none)
  chains : c.chains = p.branches.map fun b => splitSteps b.members
  depths : c.depths = c.chains.map (·.length)
  maxSteps : c.maxSteps = c.depths.foldl max 0
  lazy : c.lazy = p.lazy.getD (kd.isSpawn && !kd.isAsync)
  transpose : c.transpose = p.transpose.getD (kd.isTry && !kd.isAsync)
  n : c.n = p.branches.length
  pats : c.pats = p.branches.zipIdx.map fun bi => branchPat bi.2 bi.1

theorem mkCtx_inv {p : Input} {kind : Kind} {c : Ctx} (h : mkCtx p kind = .ok c) : MkCtx p kind c := by
  unfold mkCtx at h
  by_cases h1 : (!kind.isTry && p.isMapOrAndThen) = true
  · rw [if_pos h1] at h; cases h
  by_cases h2 : (kind.isTry && p.isThen) = true
  · rw [if_neg h1, if_pos h2] at h; cases h
  by_cases h3 : (!kind.isAsync && p.fcp.isSome) = true
  · rw [if_neg h1, if_neg h2, if_pos h3] at h; cases h
  by_cases h4 : p.branches.isEmpty = true
  · rw [if_neg h1, if_neg h2, if_neg h3, if_pos h4] at h; cases h
  rw [if_neg h1, if_neg h2, if_neg h3, if_neg h4] at h
  cases h
  exact {
    mapTry := fun hm => by
      cases ht : kind.isTry with
      | true => rfl
      | false => exact absurd (by rw [ht, hm]; rfl) h1
    thenNotTry := fun hm => by
      cases ht : kind.isTry with
      | false => rfl
      | true => exact absurd (by rw [ht, hm]; rfl) h2
    fcpAsync := fun hm => by
      cases ht : kind.isAsync with
      | true => rfl
      | false => exact absurd (by rw [ht, hm]; rfl) h3
    branches := fun he => h4 (by rw [he]; rfl)
    fcp := by cases p.fcp <;> rfl
    kind := rfl, joiner := rfl, chains := rfl, depths := rfl, maxSteps := rfl, lazy := rfl, transpose := rfl, n := rfl,
    pats := rfl }

theorem MkCtx.forall_pats {p : Input} {kd : Kind} {c : Ctx} (h : MkCtx p kd c) {P : PatV → Prop}
    (hr : ∀ i, P ⟨[(Var.r i).tok], .r i⟩) (hu : ∀ b ∈ p.branches, ∀ pt, b.pat = some pt → P ⟨pt.toks, .user pt.ident⟩) :
    ∀ pv ∈ c.pats, P pv := by
  rw [h.pats]
  intro pv hpv
  obtain ⟨⟨b, i⟩, hbi, rfl⟩ := List.mem_map.mp hpv
  have hb : b ∈ p.branches := (List.mem_zipIdx hbi).2.2 ▸ List.getElem_mem _
  unfold branchPat
  cases hpat : b.pat with
  | none => exact hr i
  | some pt => exact hu b hb pt hpat

theorem mkCtx_error {p : Input} {kind : Kind} {e : GenErr} (h : mkCtx p kind = .error e) : e.isReject = true := by
  unfold mkCtx at h
  by_cases h1 : (!kind.isTry && p.isMapOrAndThen) = true
  · rw [if_pos h1] at h; cases h; rfl
  by_cases h2 : (kind.isTry && p.isThen) = true
  · rw [if_neg h1, if_pos h2] at h; cases h; rfl
  by_cases h3 : (!kind.isAsync && p.fcp.isSome) = true
  · rw [if_neg h1, if_neg h2, if_pos h3] at h; cases h; rfl
  by_cases h4 : p.branches.isEmpty = true
  · rw [if_neg h1, if_neg h2, if_neg h3, if_pos h4] at h; cases h; rfl
  · rw [if_neg h1, if_neg h2, if_neg h3, if_neg h4] at h; cases h

theorem mem_stepActs {p : Input} {kind : Kind} {c : Ctx} (h : mkCtx p kind = .ok c) {k : Nat} {acts : List Member}
    (ha : acts ∈ c.stepActs k) : acts = [] ∨ ∃ b ∈ p.branches, acts ∈ splitSteps b.members := by
  simp only [Ctx.stepActs, (mkCtx_inv h).chains, List.map_map, List.mem_map, Function.comp] at ha
  obtain ⟨b, hb, rfl⟩ := ha
  cases hg : (splitSteps b.members)[k]? with
  | none => exact .inl rfl
  | some g => exact .inr ⟨b, hb, List.mem_of_getElem? hg⟩

theorem mkCtx_maxSteps {p : Input} {kind : Kind} {c : Ctx} (h : mkCtx p kind = .ok c) :
    (∀ b ∈ p.branches, (splitSteps b.members).length ≤ c.maxSteps) ∧ c.maxSteps ≠ 0 := by
  have hi := mkCtx_inv h
  have hN : ∀ b ∈ p.branches, (splitSteps b.members).length ≤ c.maxSteps := fun b hb => by
    rw [hi.maxSteps, hi.depths, hi.chains]
    exact (foldl_max_le.mp (Nat.le_refl _)).2 _ (by simp only [List.map_map, List.mem_map, Function.comp]; exact ⟨b, hb, rfl⟩)
  refine ⟨hN, ?_⟩
  obtain ⟨b, hb⟩ := List.exists_mem_of_ne_nil _ hi.branches
  have := hN b hb
  have := List.length_pos_iff.mpr (splitSteps_ne_nil b.members)
  omega

theorem gen_inv {p : Input} {kind : Kind} {code : Code} (h : gen p kind = .ok code) :
    ∃ c steps, mkCtx p kind = .ok c ∧ c.maxSteps ≠ 0 ∧ genSteps c (c.maxSteps - 1) 0 = .ok steps ∧
      code = { kind := kind, userNames := p.branches.map (fun b => b.pat.map (·.ident)), fcp := c.fcp,
               handlerDef := p.handler.map (·.2), steps := steps, handle := genHandle c p.handler } := by
  unfold gen at h
  split at h
  · cases h
  · rename_i c hc
    split at h
    · cases h
    · rename_i hmax
      split at h
      · cases h
      · rename_i steps hsteps
        cases h
        exact ⟨c, steps, hc, hmax, hsteps, rfl⟩

@[elab_as_elim] theorem genSteps_induct {c : Ctx} {P : Nat → Nat → Steps → Prop}
    (last : ∀ k sc, genStep c k = .ok sc → P 0 k (.last sc (genFinal c k)))
    (cons : ∀ rem k sc rest, genStep c k = .ok sc → genSteps c rem (k + 1) = .ok rest → P rem (k + 1) rest →
      P (rem + 1) k (.cons sc (genLink c k) rest)) :
    ∀ {rem k : Nat} {steps : Steps}, genSteps c rem k = .ok steps → P rem k steps := by
  intro rem
  induction rem with
  | zero =>
    intro k steps h
    simp only [genSteps] at h
    split at h
    · cases h
    · rename_i sc hs; cases h; exact last k sc hs
  | succ rem ih =>
    intro k steps h
    simp only [genSteps] at h
    split at h
    · cases h
    · rename_i sc hs
      split at h
      · cases h
      · rename_i rest hrest; cases h; exact cons rem k sc rest hs hrest (ih hrest)

/-- how the operands of step `k` are joined (`generate_step`) -/
def stepForm (c : Ctx) (k : Nat) : JoinForm :=
  if c.activeCount k > 1 then
    match c.joiner with
    | some j => .call j
    | none =>
      if c.kind.isAsync then
        .futJoin ((c.fcp.getD []) ++ [pj ':', pu ':', id' (if c.kind.isTry then "try_join" else "join"), pu '!']) c.kind.isTry
      else .tuple
  else if c.kind.isAsync then .awaitCat else .tuple

theorem genStep_inv {c : Ctx} {k : Nat} {sc : StepCode} (h : genStep c k = .ok sc) :
    genElems c k (c.stepActs k) 0 = .ok (sc.defs, sc.elems) ∧ sc.k = k ∧ sc.form = stepForm c k ∧
    sc.tbs = (if !c.kind.isAsync && c.kind.isSpawn && decide (c.activeCount k ≥ 2) then (c.activeIdx k).map (fun b => (b, b))
      else []) ∧
    sc.spawnJoin = (if !c.kind.isAsync && c.kind.isSpawn && decide (c.activeCount k ≥ 2) then some (idxProjs c k) else none) := by
  unfold genStep at h
  split at h
  · cases h
  · rename_i defs elems he
    cases h
    refine ⟨he, rfl, ?_, rfl, rfl⟩
    unfold stepForm
    by_cases hm : c.activeCount k > 1
    · simp only [hm, decide_true, if_true]
      cases c.joiner with
      | some j => rfl
      | none => by_cases ha : c.kind.isAsync <;> simp [ha]
    · simp only [hm, decide_false, Bool.false_eq_true, if_false]

theorem genStep_elem {c : Ctx} {k : Nat} {sc : StepCode} (h : genStep c k = .ok sc) :
    ∀ e ∈ sc.elems, e.lazy = (c.multi k && c.lazy) ∧ e.wrap = c.wrapOf k e.b := by
  intro e hmem
  have : e.sem ∈ sc.elems.map Elem.sem := List.mem_map_of_mem hmem
  rw [(genElems_spec c k _ 0 _ _ (genStep_inv h).1).2] at this
  obtain ⟨ab, _, hab⟩ := List.mem_map.mp this
  simp only [Elem.sem, Prod.mk.injEq] at hab
  exact ⟨hab.2.1.symm, hab.2.2.1 ▸ hab.1 ▸ rfl⟩

/-! ### errors of the step generator are internal, never configuration rejections -/

theorem genElems_err (c : Ctx) (k : Nat) (actss : List (List Member)) (b0 : Nat) (e : GenErr)
    (h : genElems c k actss b0 = .error e) : ∃ ce, e = .internal ce := by
  induction actss generalizing b0 with
  | nil => simp [genElems] at h
  | cons acts rest ih =>
    simp only [genElems] at h
    split at h
    · cases h; exact ⟨_, rfl⟩
    · split at h
      · rename_i e' he
        cases h
        exact ih _ he
      · split at h <;> cases h

theorem genStep_err (c : Ctx) (k : Nat) (e : GenErr) (h : genStep c k = .error e) : ∃ ce, e = .internal ce := by
  unfold genStep at h
  split at h
  · rename_i e' he
    cases h
    exact genElems_err c k _ 0 _ he
  · cases h

theorem genSteps_err (c : Ctx) (rem k : Nat) (e : GenErr) (h : genSteps c rem k = .error e) : ∃ ce, e = .internal ce := by
  induction rem generalizing k with
  | zero =>
    simp only [genSteps] at h
    split at h
    · rename_i e1 h1
      cases h
      exact genStep_err c k _ h1
    · cases h
  | succ rem ih =>
    simp only [genSteps] at h
    split at h
    · rename_i e1 h1
      cases h
      exact genStep_err c k _ h1
    · split at h
      · rename_i e2 h2
        cases h
        exact ih _ h2
      · cases h

end JoinModel
