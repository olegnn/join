/-
  What follows a step in the generated block, against the reference loop: reading all result variables
  (`lookupAll_vars`) and the closing transposition over any set of them (`evalTransposer_vars`), the success check
  between steps, the final values under the invariant (`finals_of_inv`), the invariant after a step (`step_inv`) and the
  induction over the steps (`evalSteps_eq`, along `genSteps_induct`).
-/
import JoinModel.Lemmas.StepRefine
namespace JoinModel

theorem extract_mkTuple (pats : List PatV) (news : List Value) (env : Env) (h : pats.length = news.length) :
    extract pats (mkTuple news) env = M.ret (bindPats pats news env) := by
  unfold extract
  rw [h, untuple_mkTuple]

/-! ### the result variables -/

section
variable {c : Ctx} {names : List (Option String)}

theorem lookupAll_vars (ok : CtxOK c names) {env : Env} {val : Nat → Value}
    (henv : ∀ i, i < c.n → env.lookup (c.varOf i) = some (val i)) :
    lookupAll env c.vars = some ((List.range c.n).map val) := by
  rw [vars_eq ok]
  refine lookupAll_of_forall _ _ _ (by simp) fun i hi => ?_
  simpa using henv i (by simpa using hi)

theorem evalTransposer_fail {env : Env} {x : Var} {v : Value} (xs ret : List Var) (h : env.lookup x = some v)
    (hv : v.isSucc = false) : evalTransposer env (x :: xs) ret = M.ret v := by
  cases xs <;> simp only [evalTransposer, h] <;> cases v <;> first | rfl | cases hv

/-- `r₀.and_then(|r₀| … rₙ.map(|rₙ| (all results)))` over the result variables of the branches `S`: all branches in the
    sync try macros, those that finished before the last step in the async ones (`final_transpose`). -/
theorem evalTransposer_vars (ok : CtxOK c names) (S : List Nat) (hS : S.Nodup) (hSn : ∀ i ∈ S, i < c.n) (hne : S ≠ [])
    (val : Nat → Value) (env : Env) (henv : ∀ i, i < c.n → env.lookup (c.varOf i) = some (val i)) :
    evalTransposer env (S.map c.varOf) c.vars =
      match firstFail (S.map val) with
      | some v => M.ret v
      | none => M.ret (.succ (mkTuple ((List.range c.n).map fun i =>
          if i ∈ S then (payload? (val i)).getD (val i) else val i))) := by
  -- `val` generalised: every success rebinds its variable to the payload, so the rest runs under another valuation
  induction S generalizing env val with
  | nil => exact absurd rfl hne
  | cons i S ih =>
    have hi := hSn i List.mem_cons_self
    have hiS := (List.nodup_cons.mp hS).1
    cases hs : (val i).isSucc with
    | false =>
      rw [List.map_cons, evalTransposer_fail _ _ (henv i hi) hs]
      simp [firstFail, hs]
    | true =>
      obtain ⟨p, hv⟩ := Value.eq_succ_of_isSucc hs
      have henv' : ∀ j, j < c.n → ((c.varOf i, p) :: env).lookup (c.varOf j) = some (if j = i then p else val j) := by
        intro j hj
        by_cases hji : j = i
        · simp [hji, List.lookup]
        · have : (c.varOf j == c.varOf i) = false := by simpa using fun h => hji (varOf_inj ok j i hj hi h)
          simp only [List.lookup, this, hji, if_false, henv j hj]
      -- `S` has no duplicates: the rest of `S` does not see the rebinding …
      have hmap : ∀ S' : List Nat, i ∉ S' → (S'.map fun j => if j = i then p else val j) = S'.map val := fun S' h =>
        List.map_congr_left fun j hj => if_neg fun hji => h (by rw [← hji]; exact hj)
      -- … which shows only in the tuple read at the end, where branch `i` contributes its payload
      have hout : ∀ S' : List Nat, i ∉ S' →
          ((List.range c.n).map fun j => if j ∈ S' then (payload? (if j = i then p else val j)).getD (if j = i then p else val j)
            else if j = i then p else val j) =
          (List.range c.n).map fun j => if j ∈ i :: S' then (payload? (val j)).getD (val j) else val j := fun S' h =>
        List.map_congr_left fun j _ => by
          by_cases hji : j = i
          · simp [hji, h, hv, payload?]
          · simp [hji]
      simp only [List.map_cons, firstFail, hv, Value.isSucc, if_true]
      -- `evalTransposer` has a clause of its own for the last variable (`.map`, not `.and_then`)
      cases S with
      | nil =>
        simp only [evalTransposer, henv i hi, hv, lookupAll_vars ok henv', M.ofOption_some, M.ret_andThen, List.map_nil,
          firstFail]
        rw [← hout [] (by simp)]
        exact congrArg (fun l => M.ret (Value.succ (mkTuple l)))
          (List.map_congr_left fun j _ => (if_neg List.not_mem_nil).symm)
      | cons j S =>
        simp only [List.map_cons, evalTransposer, henv i hi, hv]
        rw [← List.map_cons, ih (List.nodup_cons.mp hS).2 (fun j hj => hSn j (List.mem_cons_of_mem _ hj)) (by simp) _ _ henv',
          hmap _ hiS, hout _ hiS]
        rfl

end

/-- the arm of the `match __fail_index` of a `failCheck` link that is labelled `pos` -/
theorem find_arm (xs : List Var) (pos : Nat) (h : pos < xs.length) :
    (xs.zipIdx.map fun (xp : Var × Nat) => (xp.2, xp.1)).find? (fun a => a.1 == pos) = some (pos, xs[pos]) := by
  rw [List.find?_eq_some_iff_getElem]
  exact ⟨by simp, pos, by simpa using h, by simp, fun j hj => by simp; omega⟩

/-! ### final values -/

theorem finals_of_inv {c : Ctx} {names : List (Option String)} {k : Nat} {env : Env}
    {vals : List (Option Value)} (hinv : Inv c names k env vals) (hk : 0 < k) :
    ∃ val : Nat → Value, allSome vals = some ((List.range c.n).map val) ∧
      ∀ i, i < c.n → env.lookup (c.varOf i) = some (val i) := by
  have hf : ∀ i, i < c.n → (vals[i]?).join = some (((vals[i]?).join).getD (.atom 0)) := fun i hi => by
    obtain ⟨v, hv⟩ := Option.isSome_iff_exists.mp (hinv.bound hk i hi)
    rw [hv]; rfl
  refine ⟨fun i => ((vals[i]?).join).getD (.atom 0), ?_, fun i hi => (hinv.agree i hi).trans (hf i hi)⟩
  rw [← hinv.len]
  refine allSome_of_forall vals _ fun i hi => ?_
  have := hf i (hinv.len ▸ hi)
  rw [List.getElem?_eq_getElem hi, Option.join_some] at this ⊢
  rw [this]
  rfl

/-- the value of `__rs` after the steps (what `specHandle … none` returns for the loop's outcome) -/
def encode (isTry : Bool) : Fin → Value
  | .vals vs => if isTry then .succ (mkTuple vs) else mkTuple vs
  | .failed v => v

/-! ### the induction over the steps -/

theorem lookupAll_activeVars {c : Ctx} {names : List (Option String)} (ok : CtxOK c names) (k : Nat)
    (news : List Value) (hn : news.length = (c.activeIdx k).length) (env : Env) :
    lookupAll (bindPats (c.activePats k) news env) (c.activeVars k) = some news := by
  have hl : (c.activeVars k).length = news.length := by rw [activePats_vars ok k]; simp [hn]
  refine lookupAll_of_forall _ _ _ hl fun i hi => ?_
  rw [activeVars_getElem ok k i hi, lookup_bindPats_active ok k news hn]

section
variable {c : Ctx} {names : List (Option String)} (ok : CtxOK c names) (σ : World) (parent : Option String)
include ok

/-- `srs`: what `__sr j` has been bound to behind the step, innermost first (the async try macros rebind it) -/
theorem step_inv {k : Nat} {env : Env} {vals : List (Option Value)} (hinv : Inv c names k env vals)
    (capss : List (List Value)) (news : List Value) (hn : news.length = (c.activeIdx k).length) (j : Nat)
    (srs : List Value) :
    Inv c names (k + 1)
      (bindPats (c.activePats k) news
        (srs.map (fun v => (Var.sr j, v)) ++ (stepJunk c (specCfgOf σ parent names c) k capss ++ env)))
      (updVals vals (c.activeIdx k) news) :=
  inv_step ok ((hinv.scratch ok _ (stepJunk_scratch _ _ _ _)).scratch ok _ fun xv h => by
    obtain ⟨v, -, rfl⟩ := List.mem_map.mp h
    rfl) news hn

theorem evalSteps_eq (hn : 0 < c.n) (hnt : c.kind.isAsync = true → c.kind.isTry = false)
    (htrT : c.kind.isTry = true → c.transpose = true) :
    ∀ (rem k : Nat) (env : Env) (vals : List (Option Value)) (steps : Steps),
      Inv c names k env vals → genSteps c rem k = .ok steps →
      evalSteps (cfgOf σ parent names) env steps =
        (specLoop (specCfgOf σ parent names c) rem k vals).andThen fun f => M.ret (encode c.kind.isTry f) := by
  have hsc : (specCfgOf σ parent names c).kind = c.kind := rfl
  intro rem k env vals steps hinv hgen
  -- along the generator's recursion, not on `rem`: each case brings its `genStep c k = .ok s`; `env`, `vals` change at every step
  refine genSteps_induct (P := fun rem k steps => ∀ env vals, Inv c names k env vals →
    evalSteps (cfgOf σ parent names) env steps =
      (specLoop (specCfgOf σ parent names c) rem k vals).andThen fun f => M.ret (encode c.kind.isTry f)) ?_ ?_ hgen
    env vals hinv
  · intro k s hs env vals hinv
    rw [evalSteps, evalStep_eq ok σ parent k env vals hinv s hs hnt, specLoop_eq, specStep,
      active_eq ok σ parent k, M.andThen_assoc, M.andThen_assoc]
    refine M.andThen_congr _ _ _ fun capss hcapss => M.andThen_congr _ _ _ fun news hnews => ?_
    have hnl := specChains_length _ _ _ _ _ _ (specCapsAll_length _ _ _ _ _ hcapss).1 _ hnews
    have hinv' := step_inv ok σ parent hinv capss news hnl s.k [mkTuple news]
    rw [List.map_singleton, List.singleton_append] at hinv'
    -- behind a step every branch holds a value: the `allSome` of the reference loop is not stuck, the variables are all bound
    obtain ⟨val, hf1, henv⟩ := finals_of_inv hinv' (Nat.succ_pos k)
    have hpl : (c.activePats k).length = news.length := by rw [activePats_length ok k, hnl]
    simp only [specTail, active_eq ok σ parent k, hf1, hsc]
    by_cases htry : c.kind.isTry = true
    · simp only [genFinal, htrT htry, htry, Bool.and_self, if_true]
      rw [extract_mkTuple _ _ _ hpl, M.ret_andThen]
      have := evalTransposer_vars ok (List.range c.n) List.nodup_range (fun i hi => List.mem_range.mp hi)
        (by simpa using Nat.ne_of_gt hn) val _ henv
      rw [← vars_eq ok] at this
      rw [this]
      cases hff : firstFail ((List.range c.n).map val) with
      | some v => simp [encode]
      | none =>
        rw [filterMap_payload_map _ _ fun i hi => (firstFail_none_iff _).mp hff _ (List.mem_map_of_mem hi)]
        simp only [M.ret_andThen, encode, if_true]
        exact congrArg (fun l => M.ret (Value.succ (mkTuple l))) (List.map_congr_left fun i hi => if_pos hi)
    · have htry' : c.kind.isTry = false := by simpa using htry
      simp only [genFinal, htry', Bool.and_false, Bool.false_eq_true, if_false]
      rw [extract_mkTuple _ _ _ hpl, M.ret_andThen, lookupAll_vars ok henv]
      simp [encode]
  · intro rem k s rest hs _ ih env vals hinv
    rw [evalSteps, evalStep_eq ok σ parent k env vals hinv s hs hnt, specLoop_eq, specStep,
      active_eq ok σ parent k, M.andThen_assoc, M.andThen_assoc]
    refine M.andThen_congr _ _ _ fun capss hcapss => M.andThen_congr _ _ _ fun news hnews => ?_
    have hnl := specChains_length _ _ _ _ _ _ (specCapsAll_length _ _ _ _ _ hcapss).1 _ hnews
    have hpl : (c.activePats k).length = news.length := by rw [activePats_length ok k, hnl]
    have hrec := ih _ _ (step_inv ok σ parent hinv capss news hnl s.k [mkTuple news])
    rw [List.map_singleton, List.singleton_append] at hrec
    rw [specTail, active_eq ok σ parent k, hsc]
    by_cases htry : c.kind.isTry = true
    · simp only [genLink, htrT htry, htry, if_true]
      rw [extract_mkTuple _ _ _ hpl, M.ret_andThen, lookupAll_activeVars ok k news hnl]
      simp only [M.ofOption_some, M.ret_andThen]
      -- the reference loop looks for the failing value, the generated check for its index: one search
      rw [firstFail_eq_find?, List.find?_eq_bind_findIdx?_getElem?]
      cases hfi : news.findIdx? (fun v => !v.isSucc) with
      | none => simp only [Option.bind_none]; rw [htry] at hrec; exact hrec
      | some pos =>
        obtain ⟨hpos, hnot, -⟩ := List.findIdx?_eq_some_iff_getElem.mp hfi
        have hpv : pos < (c.activeVars k).length := by rw [activePats_vars ok k]; simpa [hnl] using hpos
        simp only [Ctx.failArms, find_arm _ pos hpv, Option.bind_some, List.getElem?_eq_getElem hpos]
        rw [activeVars_getElem ok k pos hpv, lookup_bindPats_active ok k news hnl]
        -- the arm's `unreachable!` would need a success at `pos`
        cases hv : news[pos] with
        | succ p => rw [hv] at hnot; cases hnot
        | _ => rfl
    · have htry' : c.kind.isTry = false := by simpa using htry
      simp only [genLink, htry', Bool.false_eq_true, if_false]
      rw [extract_mkTuple _ _ _ hpl, M.ret_andThen]
      rw [htry'] at hrec
      exact hrec

end

end JoinModel
