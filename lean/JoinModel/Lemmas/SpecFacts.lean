/-
  Facts about the reference loop (`Spec.lean`) alone, on which the property theorems and the refinement rest: the state
  (`updVals`, `firstFail`, `allSome`, the active branches), what a step returns and which events it produces — read off
  `M.seq` (Lemmas/Seq) — and what the loop returns (`specLoop_post`).  How the loop is made of its steps is in
  Lemmas/SpecStep.
-/
import JoinModel.Lemmas.SpecStep
import JoinModel.Lemmas.Seq
namespace JoinModel

/-! ### views of a trace -/

def Ev.step : Ev → Option Nat
  | .cap _ k _ _ _ => some k
  | .chainStart _ k => some k
  | .cb _ k _ => some k
  | .chainEnd _ k _ => some k
  | .joiner k _ => some k
  | .handlerDef => none
  | .handlerCall _ => none

def MEv.step : MEv → Option Nat
  | .ev e => e.step
  | .fork _ k _ _ => some k
  | .join _ k => some k

def MEv.isCap : MEv → Bool
  | .ev (.cap _ _ _ _ _) => true
  | _ => false

def Ev.end? : Ev → Option (Nat × Nat × Value)
  | .chainEnd b k v => some (b, k, v)
  | _ => none

def MEv.ends : MEv → List (Nat × Nat × Value)
  | .ev e => e.end?.toList
  | .fork _ _ _ body => body.filterMap Ev.end?
  | .join _ _ => []

def chainEnds (t : List MEv) : List (Nat × Nat × Value) := t.flatMap MEv.ends

@[simp] theorem chainEnds_append (a b : List MEv) : chainEnds (a ++ b) = chainEnds a ++ chainEnds b := by
  simp [chainEnds]

@[simp] theorem chainEnds_nil : chainEnds [] = [] := rfl

theorem chainEnds_eq_nil {t : List MEv} (h : ∀ e ∈ t, e.ends = []) : chainEnds t = [] :=
  List.flatMap_eq_nil_iff.mpr h

/-! ### the state of the loop -/

theorem updVals_length (vals : List (Option Value)) (bs : List Nat) (news : List Value) :
    (updVals vals bs news).length = vals.length := by
  induction bs generalizing vals news with
  | nil => simp [updVals]
  | cons b bs ih =>
    cases news with
    | nil => simp [updVals]
    | cons v vs => simp [updVals, ih]

theorem updVals_not_mem (vals : List (Option Value)) (bs : List Nat) (news : List Value) (i : Nat) (hi : i ∉ bs) :
    (updVals vals bs news)[i]? = vals[i]? := by
  induction bs generalizing vals news with
  | nil => simp [updVals]
  | cons b bs ih =>
    cases news with
    | nil => simp [updVals]
    | cons v vs =>
      simp only [List.mem_cons, not_or] at hi
      simp only [updVals]
      rw [ih _ _ hi.2, List.getElem?_set_ne (Ne.symm hi.1)]

theorem updVals_mem (vals : List (Option Value)) (bs : List Nat) (news : List Value) (hl : bs.length = news.length)
    (hnd : bs.Nodup) (pos : Nat) (hpos : pos < bs.length) (hb : bs[pos] < vals.length) :
    (updVals vals bs news)[bs[pos]]? = some (some (news[pos]'(hl ▸ hpos))) := by
  induction bs generalizing vals news pos with
  | nil => simp at hpos
  | cons b bs ih =>
    cases news with
    | nil => simp at hl
    | cons v vs =>
      have hnd' := List.nodup_cons.mp hnd
      simp only [updVals]
      cases pos with
      | zero =>
        simp only [List.getElem_cons_zero]
        rw [updVals_not_mem _ _ _ _ hnd'.1]
        simp only [List.getElem_cons_zero] at hb
        simp [List.getElem?_set_self hb]
      | succ pos =>
        simp only [List.getElem_cons_succ]
        exact ih _ vs (by simpa using hl) hnd'.2 pos (by simpa using hpos) (by simpa using hb)

theorem mem_active {sc : SpecCfg} {k i : Nat} : i ∈ sc.active k ↔ i < sc.n ∧ k < sc.depth i := by
  simp [SpecCfg.active]

theorem active_sorted (sc : SpecCfg) (k : Nat) : (sc.active k).Pairwise (· < ·) :=
  List.Pairwise.sublist List.filter_sublist List.pairwise_lt_range

theorem active_nodup (sc : SpecCfg) (k : Nat) : (sc.active k).Nodup :=
  (active_sorted sc k).imp Nat.ne_of_lt

theorem active_lt (sc : SpecCfg) (k : Nat) : ∀ b ∈ sc.active k, b < sc.n := fun _ hb => (mem_active.mp hb).1

theorem firstFail_eq_find? (l : List Value) : firstFail l = l.find? fun v => !v.isSucc := by
  induction l with
  | nil => rfl
  | cons a l ih => cases ha : a.isSucc <;> simp [firstFail, ha, ih]

theorem firstFail_none_iff (l : List Value) : firstFail l = none ↔ ∀ v ∈ l, v.isSucc = true := by
  simp [firstFail_eq_find?]

theorem firstFail_some (l : List Value) (v : Value) (h : firstFail l = some v) :
    ∃ pos, ∃ hp : pos < l.length, l[pos] = v ∧ v.isSucc = false ∧ ∀ q (hq : q < pos), (l[q]'(by omega)).isSucc = true := by
  rw [firstFail_eq_find?, List.find?_eq_some_iff_getElem] at h
  obtain ⟨hv, pos, hp, hpv, hmin⟩ := h
  exact ⟨pos, hp, hpv, by simpa using hv, fun q hq => by simpa using hmin q hq⟩

theorem firstFail_isSucc_false {l : List Value} {v : Value} (h : firstFail l = some v) : v.isSucc = false := by
  rw [firstFail_eq_find?] at h
  simpa using List.find?_some h

theorem Value.eq_succ_of_isSucc {v : Value} (h : v.isSucc = true) : ∃ p, v = .succ p := by
  cases v with
  | succ p => exact ⟨p, rfl⟩
  | _ => cases h

theorem filterMap_payload_map {ι} (l : List ι) (f : ι → Value) (h : ∀ x ∈ l, (f x).isSucc = true) :
    (l.map f).filterMap payload? = l.map fun x => (payload? (f x)).getD (f x) := by
  induction l with
  | nil => rfl
  | cons x l ih =>
    obtain ⟨p, hp⟩ := Value.eq_succ_of_isSucc (h x List.mem_cons_self)
    rw [List.map_cons, List.filterMap_cons, List.map_cons, ← ih fun y hy => h y (List.mem_cons_of_mem _ hy), hp]
    rfl

theorem firstFail_none_payloads (l : List Value) (h : firstFail l = none) :
    (l.filterMap payload?).length = l.length := by
  have := filterMap_payload_map l id ((firstFail_none_iff l).mp h)
  rw [List.map_id] at this
  rw [this, List.length_map]

theorem allSome_eq_some {vals : List (Option Value)} {finals : List Value} :
    allSome vals = some finals ↔ vals = finals.map some := by
  induction vals generalizing finals with
  | nil => cases finals <;> simp [allSome]
  | cons v vals ih =>
    cases v with
    | none => cases finals <;> simp [allSome]
    | some v =>
      cases finals with
      | nil => cases h : allSome vals <;> simp [allSome, h]
      | cons f fs => cases h : allSome vals <;> simp [allSome, h, ← ih, eq_comm]

theorem allSome_length (vals : List (Option Value)) (finals : List Value) (h : allSome vals = some finals) :
    finals.length = vals.length := by
  rw [allSome_eq_some.mp h, List.length_map]

theorem allSome_getElem (vals : List (Option Value)) (finals : List Value) (h : allSome vals = some finals) :
    ∀ i : Nat, vals[i]? = (finals[i]?).map some := by
  intro i
  rw [allSome_eq_some.mp h, List.getElem?_map]

theorem allSome_of_forall (vals : List (Option Value)) (f : Nat → Value)
    (h : ∀ i, i < vals.length → vals[i]? = some (some (f i))) : allSome vals = some ((List.range vals.length).map f) := by
  refine allSome_eq_some.mpr (List.ext_getElem (by simp) fun i h1 _ => ?_)
  have := h i h1
  rw [List.getElem?_eq_getElem h1] at this
  simpa using Option.some.inj this

/-! ### what a step returns -/

theorem specCapsAll_length (sc : SpecCfg) (k : Nat) (vis : List (String × Value)) (bs : List Nat)
    (capss : List (List Value)) (h : (specCapsAll sc k vis bs).res = .ok capss) :
    ∃ hl : bs.length = capss.length,
      ∀ pos (h1 : pos < bs.length), (capss[pos]'(hl ▸ h1)).length = (capKeys (sc.acts bs[pos] k)).length := by
  rw [specCapsAll_eq_seq] at h
  have hl : bs.length = capss.length := by simpa using (M.seq_length h).symm
  refine ⟨hl, fun pos h1 => ?_⟩
  have := M.seq_getElem h pos (by simpa using h1)
  rw [List.getElem_map, specCapsBranch_eq_seq] at this
  simpa using M.seq_length this

theorem map_ur_ok {ι α} {xs : List ι} {as : List α} {r : ι → Res α} {u : ι → UR α}
    (hru : ∀ x a, r x = .ok a → u x = .ok a) (h : xs.map r = as.map .ok) : xs.map u = as.map .ok := by
  induction xs generalizing as with
  | nil => cases as <;> simp_all
  | cons x xs ih =>
    cases as with
    | nil => simp at h
    | cons a as =>
      simp only [List.map_cons, List.cons.injEq] at h ⊢
      exact ⟨hru x a h.1, ih h.2⟩

theorem joinM_ok {k : Nat} {bo : Nat × ChainOut} {v : Value} (h : (joinM k bo).res = .ok v) : bo.2.res = .ok v := by
  simp only [joinM, M.tell_andThen_res, M.lift_res] at h
  cases ho : bo.2.res with
  | ok v' => rw [ho] at h; cases h; rfl
  | panic n => rw [ho] at h; cases h

theorem chainM_ok {sc : SpecCfg} {k : Nat} {vals : List (Option Value)} {vis : List (String × Value)}
    {bc : Nat × List Value} {v : Value} (h : (chainM sc k vals vis bc).res = .ok v) :
    (sc.σ.chain bc.1 k (specPrev sc vals bc.1 k) bc.2 vis).res = .ok v := by
  simp only [chainM] at h
  cases ho : (sc.σ.chain bc.1 k (specPrev sc vals bc.1 k) bc.2 vis).res with
  | ok v' => rw [ho] at h; cases h; rfl
  | panic n => rw [ho] at h; cases h

theorem specChains_length (sc : SpecCfg) (k : Nat) (vals : List (Option Value)) (vis : List (String × Value))
    (act : List Nat) (caps : List (List Value)) (hl : act.length = caps.length) (news : List Value)
    (h : (specChains sc k vals vis act caps).res = .ok news) : news.length = act.length := by
  unfold specChains at h
  split at h
  · obtain ⟨_, -, h⟩ := M.andThen_res_ok h
    rw [specJoins_eq_seq] at h
    simpa [hl] using M.seq_length h
  · rw [specChainsSeq_eq_seq] at h
    simpa [hl] using M.seq_length h

/-! ### the events of a step -/

theorem capM_trace (sc : SpecCfg) (k b : Nat) (vis : List (String × Value)) (ei : Nat × Nat) :
    (capM sc k b vis ei).trace = [.ev (.cap b k ei.1 ei.2 vis)] := by
  simp [capM]

theorem joinM_trace (k : Nat) (bo : Nat × ChainOut) : (joinM k bo).trace = [.join bo.1 k] := by
  simp [joinM]

theorem specCapsAll_trace (sc : SpecCfg) (k : Nat) (vis : List (String × Value)) (bs : List Nat) :
    ∀ e ∈ (specCapsAll sc k vis bs).trace, ∃ b ∈ bs, ∃ ei ∈ capKeys (sc.acts b k), e = .ev (.cap b k ei.1 ei.2 vis) := by
  intro e he
  rw [specCapsAll_eq_seq] at he
  obtain ⟨m, hm, he⟩ := M.mem_seq_trace he
  obtain ⟨b, hb, rfl⟩ := List.mem_map.mp hm
  rw [specCapsBranch_eq_seq] at he
  obtain ⟨m, hm, he⟩ := M.mem_seq_trace he
  obtain ⟨ei, hei, rfl⟩ := List.mem_map.mp hm
  rw [capM_trace, List.mem_singleton] at he
  exact ⟨b, hb, ei, hei, he⟩

theorem specCapsBranch_trace_ok (sc : SpecCfg) (k b : Nat) (vis : List (String × Value)) (keys : List (Nat × Nat))
    (vs : List Value) (h : (specCapsBranch sc k b vis keys).res = .ok vs) :
    (specCapsBranch sc k b vis keys).trace = keys.map fun ei => .ev (.cap b k ei.1 ei.2 vis) := by
  rw [specCapsBranch_eq_seq] at h ⊢
  rw [M.seq_trace_ok h, List.flatMap_map, List.map_eq_flatMap]
  simp only [capM_trace]

theorem specCapsAll_trace_ok (sc : SpecCfg) (k : Nat) (vis : List (String × Value)) (bs : List Nat)
    (capss : List (List Value)) (h : (specCapsAll sc k vis bs).res = .ok capss) :
    (specCapsAll sc k vis bs).trace =
      bs.flatMap fun b => (capKeys (sc.acts b k)).map fun ei => .ev (.cap b k ei.1 ei.2 vis) := by
  rw [specCapsAll_eq_seq] at h ⊢
  rw [M.seq_trace_ok h, List.flatMap_map, List.flatMap_def, List.flatMap_def]
  congr 1
  refine List.map_congr_left fun b hb => ?_
  obtain ⟨pos, hpos, rfl⟩ := List.getElem_of_mem hb
  have := M.seq_getElem h pos (by simpa using hpos)
  rw [List.getElem_map] at this
  exact specCapsBranch_trace_ok _ _ _ _ _ _ this

theorem specChainsSeq_trace (sc : SpecCfg) (k : Nat) (vals : List (Option Value)) (vis : List (String × Value))
    (bcs : List (Nat × List Value)) :
    ∀ x ∈ (specChainsSeq sc k vals vis bcs).trace, ∃ bc ∈ bcs, ∃ e ∈
      chainEvents bc.1 k (sc.σ.chain bc.1 k (specPrev sc vals bc.1 k) bc.2 vis), x = .ev e := by
  intro x hx
  rw [specChainsSeq_eq_seq] at hx
  obtain ⟨m, hm, hx⟩ := M.mem_seq_trace hx
  obtain ⟨bc, hbc, rfl⟩ := List.mem_map.mp hm
  obtain ⟨e, he, rfl⟩ := List.mem_map.mp hx
  exact ⟨bc, hbc, e, he, rfl⟩

theorem specJoins_trace (k : Nat) (outs : List (Nat × ChainOut)) :
    ∃ n, n ≤ outs.length ∧ (specJoins k outs).trace = (outs.take n).map (fun bo => .join bo.1 k) ∧
      ((∃ a, (specJoins k outs).res = .ok a) → n = outs.length) := by
  rw [specJoins_eq_seq]
  obtain ⟨n, hn, htr, hok⟩ := M.seq_trace (outs.map (joinM k))
  refine ⟨n, by simpa using hn, ?_, by simpa using hok⟩
  rw [htr, ← List.map_take, List.flatMap_map, List.map_eq_flatMap]
  simp only [joinM_trace]

/-! ### chain ends of a step -/

theorem specCapsAll_ends (sc : SpecCfg) (k : Nat) (vis : List (String × Value)) (bs : List Nat) :
    chainEnds (specCapsAll sc k vis bs).trace = [] := by
  refine chainEnds_eq_nil fun e he => ?_
  obtain ⟨b, _, ei, _, rfl⟩ := specCapsAll_trace sc k vis bs e he
  rfl

theorem ends_chainEvents (b k : Nat) (o : ChainOut) :
    (chainEvents b k o).filterMap Ev.end? = (match o.res with | .ok v => [(b, k, v)] | .panic _ => []) := by
  simp only [chainEvents, List.filterMap_append, List.filterMap_cons, List.filterMap_nil, Ev.end?, List.nil_append]
  have : (o.cbs.map (Ev.cb b k)).filterMap Ev.end? = [] := by
    simp [List.filterMap_map, Function.comp_def, Ev.end?]
  rw [this]
  cases o.res <;> simp [Ev.end?]

theorem chainEnds_map_ev (es : List Ev) : chainEnds (es.map .ev) = es.filterMap Ev.end? := by
  induction es with
  | nil => rfl
  | cons e es ih =>
    simp only [List.map_cons, chainEnds, List.flatMap_cons, List.filterMap_cons] at ih ⊢
    rw [ih]
    cases h : e.end? <;> simp [MEv.ends, h]

theorem ends_chain (b k : Nat) (o : ChainOut) (name : String) :
    chainEnds ((chainEvents b k o).map .ev) = (match o.res with | .ok v => [(b, k, v)] | .panic _ => []) ∧
    chainEnds [.fork b k name (chainEvents b k o)] = (match o.res with | .ok v => [(b, k, v)] | .panic _ => []) := by
  rw [chainEnds_map_ev, ends_chainEvents]
  simp [chainEnds, MEv.ends, ends_chainEvents]

theorem ends_of_outs {ι} (k : Nat) (xs : List ι) (b : ι → Nat) (r : ι → UR Value) (t : ι → List MEv) (news : List Value)
    (ht : ∀ x, chainEnds (t x) = (match r x with | .ok v => [(b x, k, v)] | .panic _ => []))
    (houts : xs.map r = news.map UR.ok) :
    chainEnds (xs.flatMap t) = ((xs.map b).zip news).map fun bv => (bv.1, k, bv.2) := by
  induction xs generalizing news with
  | nil => rfl
  | cons x rest ih =>
    cases news with
    | nil => simp at houts
    | cons v vs =>
      simp only [List.map_cons, List.cons.injEq] at houts
      simp only [List.flatMap_cons, chainEnds_append, ht, houts.1, ih vs houts.2, List.map_cons, List.zip_cons_cons]
      rfl

theorem specChains_ends (sc : SpecCfg) (k : Nat) (vals : List (Option Value)) (vis : List (String × Value))
    (act : List Nat) (caps : List (List Value)) (hl : act.length = caps.length) (news : List Value)
    (h : (specChains sc k vals vis act caps).res = .ok news) :
    chainEnds (specChains sc k vals vis act caps).trace = (act.zip news).map fun bv => (bv.1, k, bv.2) := by
  have hfst : (act.zip caps).map Prod.fst = act := by rw [List.map_fst_zip]; omega
  unfold specChains at h ⊢
  split
  · rename_i hc
    rw [if_pos hc] at h
    obtain ⟨_, -, h⟩ := M.andThen_res_ok h
    rw [specJoins_eq_seq] at h
    -- the joins return what the threads returned
    have houts := M.seq_res_ok.mp h
    rw [List.map_map] at houts
    have houts := map_ur_ok (u := fun bo : Nat × ChainOut => bo.2.res) (fun bo v => joinM_ok) houts
    rw [List.map_map] at houts
    -- the ends of forked chains sit in the bodies the fork events carry; the joins contribute none
    have hj : chainEnds (specJoins k (forkOuts sc k vals vis (act.zip caps))).trace = [] := by
      obtain ⟨n, -, htr, -⟩ := specJoins_trace k (forkOuts sc k vals vis (act.zip caps))
      exact chainEnds_eq_nil fun e he => by
        rw [htr] at he
        obtain ⟨bo, -, rfl⟩ := List.mem_map.mp he
        rfl
    rw [specChainsFork_eq, M.tell_andThen_trace, chainEnds_append, hj, List.append_nil, forkOuts, List.map_map, List.map_eq_flatMap]
    have := ends_of_outs k (act.zip caps) Prod.fst
      (fun bc => (sc.σ.chain bc.1 k (specPrev sc vals bc.1 k) bc.2 vis).res)
      (fun bc => [.fork bc.1 k (threadName sc.parent bc.1)
        (chainEvents bc.1 k (sc.σ.chain bc.1 k (specPrev sc vals bc.1 k) bc.2 vis))])
      news (fun bc => (ends_chain bc.1 k _ _).2) houts
    rwa [hfst] at this
  · rename_i hc
    rw [if_neg hc, specChainsSeq_eq_seq] at h
    rw [specChainsSeq_eq_seq, M.seq_trace_ok h, List.flatMap_map]
    have houts := M.seq_res_ok.mp h
    rw [List.map_map] at houts
    -- the thread name concerns the other conjunct of `ends_chain`: any string will do
    have := ends_of_outs k _ Prod.fst _ _ news (fun bc => (ends_chain bc.1 k _ "").1)
      (map_ur_ok (fun bc v => chainM_ok) houts)
    rwa [hfst] at this

/-! ### every event of a step belongs to that step -/

theorem chainEvents_step (b k : Nat) (o : ChainOut) : ∀ e ∈ chainEvents b k o, e.step = some k ∧ (MEv.ev e).isCap = false := by
  intro e he
  simp only [chainEvents, List.mem_append, List.mem_singleton, List.mem_map] at he
  rcases he with (rfl | ⟨id, _, rfl⟩) | he
  · exact ⟨rfl, rfl⟩
  · exact ⟨rfl, rfl⟩
  · cases hr : o.res with
    | ok v => rw [hr] at he; simp at he; subst he; exact ⟨rfl, rfl⟩
    | panic n => rw [hr] at he; simp at he

theorem specChains_step (sc : SpecCfg) (k : Nat) (vals : List (Option Value)) (vis : List (String × Value))
    (act : List Nat) (caps : List (List Value)) :
    ∀ e ∈ (specChains sc k vals vis act caps).trace, e.step = some k ∧ e.isCap = false := by
  unfold specChains
  split
  · intro e he
    simp only [specChainsFork, M.tell_andThen_trace, List.mem_append, List.mem_map] at he
    rcases he with ⟨bo, _, rfl⟩ | he
    · exact ⟨rfl, rfl⟩
    · obtain ⟨n, -, h, -⟩ := specJoins_trace k _
      rw [h] at he
      obtain ⟨bo, _, rfl⟩ := List.mem_map.mp he
      exact ⟨rfl, rfl⟩
  · intro x hx
    obtain ⟨bc, _, e, he, rfl⟩ := specChainsSeq_trace sc k vals vis _ x hx
    exact chainEvents_step _ k _ e he

theorem specCapsAll_step (sc : SpecCfg) (k : Nat) (vis : List (String × Value)) (bs : List Nat) :
    ∀ e ∈ (specCapsAll sc k vis bs).trace, e.step = some k ∧ e.isCap = true := by
  intro e he
  obtain ⟨b, _, ei, _, rfl⟩ := specCapsAll_trace sc k vis bs e he
  exact ⟨rfl, rfl⟩

/-! ### the loop, one step at a time -/

theorem specStep_step (sc : SpecCfg) (k : Nat) (vals : List (Option Value)) :
    ∀ e ∈ (specStep sc k vals).trace, e.step = some k :=
  M.forall_andThen_trace (fun e he => (specCapsAll_step sc k _ _ e he).1)
    fun _ _ e he => (specChains_step sc k vals _ _ _ e he).1

theorem specStep_ok (sc : SpecCfg) (k : Nat) (vals : List (Option Value)) (news : List Value)
    (h : (specStep sc k vals).res = .ok news) :
    news.length = (sc.active k).length ∧
    chainEnds (specStep sc k vals).trace = ((sc.active k).zip news).map fun bv => (bv.1, k, bv.2) := by
  obtain ⟨caps, hc, hn⟩ := M.andThen_res_ok h
  obtain ⟨hl, -⟩ := specCapsAll_length _ _ _ _ _ hc
  refine ⟨specChains_length _ _ _ _ _ _ hl _ hn, ?_⟩
  rw [specStep, (M.andThen_trace_ok hc).1, chainEnds_append, specCapsAll_ends, specChains_ends _ _ _ _ _ _ hl _ hn]
  rfl

theorem specLoop_step_ge (sc : SpecCfg) (rem k : Nat) (vals : List (Option Value)) :
    ∀ e ∈ (specLoop sc rem k vals).trace, ∃ s, e.step = some s ∧ k ≤ s ∧ s ≤ k + rem := by
  refine specLoop_trace_induct sc (Q := fun rem k t => ∀ e ∈ t, ∃ s, e.step = some s ∧ k ≤ s ∧ s ≤ k + rem)
    (fun rem k vals e he => ⟨k, specStep_step sc k vals e he, Nat.le_refl _, Nat.le_add_right _ _⟩) ?_ rem k vals
  intro rem k vals news tl _ ih e he
  rcases List.mem_append.mp he with h | h
  · exact ⟨k, specStep_step sc k vals e h, Nat.le_refl _, Nat.le_add_right _ _⟩
  · obtain ⟨s, h1, h2, h3⟩ := ih e h
    exact ⟨s, h1, by omega, by omega⟩

def Fin.OK (n : Nat) (isTry : Bool) : Fin → Prop
  | .vals vs => vs.length = n
  | .failed v => v.isSucc = false ∧ isTry = true

theorem specLoop_post (sc : SpecCfg) (rem k : Nat) (vals : List (Option Value)) (f : Fin)
    (h : (specLoop sc rem k vals).res = .ok f) : f.OK vals.length sc.kind.isTry := by
  refine specLoop_ok_induct sc (Q := fun _ _ vals _ f => f.OK vals.length sc.kind.isTry) ?_ ?_ ?_ rem k vals f h
  · intro k vals news f _ hf
    obtain ⟨finals, hall, rfl⟩ := specTail_zero_ok sc k vals news f hf
    have hlen := allSome_length _ _ hall
    rw [updVals_length] at hlen
    by_cases htry : sc.kind.isTry = true
    · rw [if_pos htry]
      cases hff : firstFail finals with
      | some v => exact ⟨firstFail_isSucc_false hff, htry⟩
      | none => show _ = _; rw [firstFail_none_payloads _ hff, hlen]
    · rw [if_neg htry]
      exact hlen
  · intro _ _ _ _ v _ htry hff
    exact ⟨firstFail_isSucc_false hff, htry⟩
  · intro _ k vals news _ f _ _ ih
    cases f with
    | vals vs => simpa [Fin.OK, updVals_length] using ih
    | failed v => exact ih

end JoinModel
