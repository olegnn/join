/-
  The evaluation monad (trace and result of `andThen`), outcomes of user code, environments (`lookupAll`, what user code
  sees of one: `visible` ignores internal names), tuples.
-/
import JoinModel.Sem
import JoinModel.Lemmas.ListFacts
namespace JoinModel

/-! ### The evaluation monad -/
namespace M

@[ext] theorem ext' {α} {a b : M α} (h1 : a.trace = b.trace) (h2 : a.res = b.res) : a = b := by
  cases a; cases b; simp_all

@[simp] theorem ret_andThen {α β} (a : α) (f : α → M β) : (M.ret a).andThen f = f a := by
  simp [M.ret, M.andThen]

@[simp] theorem stuck_andThen {α β} (f : α → M β) : (M.stuck : M α).andThen f = M.stuck := by
  simp [M.stuck, M.andThen]

@[simp] theorem lift_ok_andThen {α β} (a : α) (f : α → M β) : (M.lift (.ok a)).andThen f = f a := by
  simp [M.lift, M.andThen]

@[simp] theorem lift_panic_andThen {α β} (s : Site) (f : α → M β) :
    (M.lift (.panic s) : M α).andThen f = M.lift (.panic s) := by
  simp [M.lift, M.andThen]

@[simp] theorem andThen_ret {α} (m : M α) : m.andThen M.ret = m := by
  cases m with
  | mk t r => cases r <;> simp [M.andThen, M.ret]

theorem andThen_assoc {α β γ} (m : M α) (f : α → M β) (g : β → M γ) :
    (m.andThen f).andThen g = m.andThen fun a => (f a).andThen g := by
  cases m with
  | mk t r =>
    cases r with
    | ok a =>
      simp only [M.andThen]
      cases h : (f a).res <;> simp [List.append_assoc]
    | panic s => simp [M.andThen]
    | stuck => simp [M.andThen]

@[simp] theorem tell_andThen_trace {β} (es : List MEv) (f : Unit → M β) :
    ((M.tell es).andThen f).trace = es ++ (f ()).trace := by
  simp [M.tell, M.andThen]

@[simp] theorem tell_andThen_res {β} (es : List MEv) (f : Unit → M β) :
    ((M.tell es).andThen f).res = (f ()).res := by
  simp [M.tell, M.andThen]

def pre {α} (es : List MEv) (m : M α) : M α := ⟨es ++ m.trace, m.res⟩

theorem tell_andThen {β} (es : List MEv) (f : Unit → M β) : (M.tell es).andThen f = pre es (f ()) := by
  simp [M.tell, M.andThen, pre]

@[simp] theorem pre_nil {α} (m : M α) : pre [] m = m := by simp [pre]

theorem pre_andThen {α β} (es : List MEv) (m : M α) (f : α → M β) :
    (pre es m).andThen f = pre es (m.andThen f) := by
  cases m with
  | mk t r => cases r <;> simp [pre, M.andThen, List.append_assoc]

theorem pre_pre {α} (a b : List MEv) (m : M α) : pre a (pre b m) = pre (a ++ b) m := by
  simp [pre, List.append_assoc]

@[simp] theorem ofOption_some {α} (a : α) : M.ofOption (some a) = M.ret a := rfl
@[simp] theorem ofOption_none {α} : (M.ofOption none : M α) = M.stuck := rfl

@[simp] theorem ret_trace {α} (a : α) : (M.ret a).trace = [] := rfl
@[simp] theorem ret_res {α} (a : α) : (M.ret a).res = .ok a := rfl
@[simp] theorem lift_trace {α} (r : Res α) : (M.lift r).trace = [] := rfl
@[simp] theorem lift_res {α} (r : Res α) : (M.lift r).res = r := rfl

/-! ### trace / result of `andThen` -/

theorem andThen_cases {α β} (m : M α) (f : α → M β) :
    (∃ a, m.res = .ok a ∧ (m.andThen f).trace = m.trace ++ (f a).trace ∧ (m.andThen f).res = (f a).res) ∨
    ((∀ a, m.res ≠ .ok a) ∧ (m.andThen f).trace = m.trace ∧ ∀ b, (m.andThen f).res ≠ .ok b) := by
  cases m with
  | mk t r => cases r <;> simp [M.andThen]

theorem andThen_res_ok {α β} {m : M α} {f : α → M β} {b : β} (h : (m.andThen f).res = .ok b) :
    ∃ a, m.res = .ok a ∧ (f a).res = .ok b := by
  rcases andThen_cases m f with ⟨a, ha, -, hr⟩ | ⟨-, -, hno⟩
  · exact ⟨a, ha, hr ▸ h⟩
  · exact absurd h (hno b)

theorem andThen_trace_ok {α β} {m : M α} {f : α → M β} {a : α} (h : m.res = .ok a) :
    (m.andThen f).trace = m.trace ++ (f a).trace ∧ (m.andThen f).res = (f a).res := by
  cases m with
  | mk t r => cases h; exact ⟨rfl, rfl⟩

theorem andThen_trace_notok {α β} {m : M α} {f : α → M β} (h : ∀ a, m.res ≠ .ok a) :
    (m.andThen f).trace = m.trace := by
  rcases andThen_cases m f with ⟨a, ha, -⟩ | ⟨-, ht, -⟩
  · exact absurd ha (h a)
  · exact ht

theorem andThen_res_panic {α β} {m : M α} {f : α → M β} {s : Site} (h : m.res = .panic s) :
    (m.andThen f).res = .panic s ∧ (m.andThen f).trace = m.trace := by
  cases m with
  | mk t r => cases h; exact ⟨rfl, rfl⟩

theorem mem_andThen_trace {α β} {m : M α} {f : α → M β} {e : MEv} (h : e ∈ (m.andThen f).trace) :
    e ∈ m.trace ∨ ∃ a, m.res = .ok a ∧ e ∈ (f a).trace := by
  rcases andThen_cases m f with ⟨a, ha, ht, -⟩ | ⟨-, ht, -⟩ <;> rw [ht] at h
  · exact (List.mem_append.mp h).imp_right fun h => ⟨a, ha, h⟩
  · exact Or.inl h

theorem forall_andThen_trace {α β} {m : M α} {f : α → M β} {P : MEv → Prop} (hm : ∀ e ∈ m.trace, P e)
    (hf : ∀ a, m.res = .ok a → ∀ e ∈ (f a).trace, P e) : ∀ e ∈ (m.andThen f).trace, P e := by
  intro e he
  rcases mem_andThen_trace he with h | ⟨a, ha, h⟩
  · exact hm e h
  · exact hf a ha e h

theorem andThen_congr {α β} (m : M α) (f g : α → M β) (h : ∀ a, m.res = .ok a → f a = g a) :
    m.andThen f = m.andThen g := by
  cases m with
  | mk t r =>
    cases r with
    | ok a => simp only [M.andThen]; rw [h a rfl]
    | panic s => rfl
    | stuck => rfl

end M

/-! ### Outcomes of user code -/

theorem UR.toRes_ne_stuck {α} (u : UR α) : u.toRes ≠ .stuck := by
  cases u <;> exact fun h => nomatch h

theorem UR.toRes_eq_panic {α} {u : UR α} {s : Site} (h : u.toRes = .panic s) : ∃ n, s = .user n := by
  cases u with
  | ok a => cases h
  | panic n => cases h; exact ⟨n, rfl⟩

/-! ### Environments -/

theorem lookupAll_eq_some {env : Env} {ks : List Var} {vs : List Value} :
    lookupAll env ks = some vs ↔ ks.map (fun k => env.lookup k) = vs.map some := by
  induction ks generalizing vs with
  | nil => cases vs <;> simp [lookupAll]
  | cons k ks ih =>
    cases vs with
    | nil => cases hk : env.lookup k <;> cases hr : lookupAll env ks <;> simp [lookupAll, hk, hr]
    | cons v vs => cases hk : env.lookup k <;> cases hr : lookupAll env ks <;> simp [lookupAll, hk, hr, ← ih]

theorem lookupAll_length (env : Env) (ks : List Var) (vs : List Value) (h : lookupAll env ks = some vs) :
    vs.length = ks.length := by
  simpa using (congrArg List.length (lookupAll_eq_some.mp h)).symm

theorem lookupAll_of_forall (env : Env) (ks : List Var) (vs : List Value) (hl : ks.length = vs.length)
    (h : ∀ i (hi : i < ks.length), env.lookup ks[i] = some (vs[i]'(hl ▸ hi))) : lookupAll env ks = some vs :=
  lookupAll_eq_some.mpr (List.ext_getElem (by simp [hl]) fun i h1 _ => by simpa using h i (by simpa using h1))

/-! ### `visible` ignores internal names -/

/-- scratch names of the expansion: never the name of a branch result -/
def Var.isScratch : Var → Bool
  | .sr _ | .j _ | .ew _ _ _ => true
  | _ => false

theorem Var.internal_of_scratch {x : Var} (h : x.isScratch = true) : x.isInternal = true := by
  cases x <;> simp_all [Var.isScratch, Var.isInternal]

theorem visible_cons_internal (names : List (Option String)) (x : Var) (v : Value) (env : Env)
    (hx : x.isInternal = true) : visible names ((x, v) :: env) = visible names env := by
  unfold visible
  congr 1
  funext nm
  cases nm with
  | none => rfl
  | some s =>
    have : (Var.user s == x) = false := by
      cases x <;> simp_all [Var.isInternal]
    simp [List.lookup, this]

theorem visible_append_internal (names : List (Option String)) (l env : Env)
    (hl : ∀ xv ∈ l, xv.1.isInternal = true) : visible names (l ++ env) = visible names env := by
  induction l with
  | nil => rfl
  | cons xv l ih =>
    obtain ⟨x, v⟩ := xv
    rw [List.cons_append, visible_cons_internal _ _ _ _ (hl (x, v) (by simp))]
    exact ih (fun y hy => hl y (by simp [hy]))

/-! ### Tuples -/

@[simp] theorem unspine_spine (vs : List Value) : unspine (spine vs) = some vs := by
  induction vs with
  | nil => rfl
  | cons v vs ih => simp [spine, unspine, ih]

theorem untuple_mkTuple (vs : List Value) : untuple vs.length (mkTuple vs) = some vs := by
  match vs with
  | [] => simp [untuple, mkTuple, spine, unspine]
  | [v] => simp [untuple, mkTuple]
  | a :: b :: rest => simp [untuple, mkTuple]

end JoinModel
