/-
  `evalStep` of the generated step code equals the captures + chains of the reference loop.  What every macro kind
  shares is `evalStep_caps` (the statements up to the join expression) and `stepElems_eq` (its operands); `evalStep_eq`
  adds the join forms that evaluate all operands.
-/
import JoinModel.Lemmas.Invariant
namespace JoinModel

/-! ### lookups through scratch bindings -/

def tbsEnv (c : Ctx) (k : Nat) : Env :=
  ((if c.kind.threads && decide (c.activeCount k ≥ 2) then (c.activeIdx k).map (fun b => (b, b)) else []).map
    fun (ba : Nat × Nat) => (Var.j ba.1, Value.builder ba.2)).reverse

theorem tbsEnv_scratch (c : Ctx) (k : Nat) : ∀ xv ∈ tbsEnv c k, xv.1.isScratch = true := by
  intro xv hxv
  simp only [tbsEnv, List.mem_reverse, List.mem_map] at hxv
  obtain ⟨ba, _, h⟩ := hxv
  rw [← h]; rfl

theorem lookup_builders (bs : List Nat) (hnd : bs.Nodup) (env : Env) (b : Nat) (hb : b ∈ bs) :
    ((bs.map fun b => (Var.j b, Value.builder b)).reverse ++ env).lookup (.j b) = some (.builder b) := by
  rw [List.lookup_append, lookup_of_mem_nodup (v := Value.builder b)]
  · rfl
  · rw [List.map_reverse, List.map_map]
    exact List.pairwise_reverse.mpr (List.pairwise_map.mpr (hnd.imp fun h heq => h (Var.j.inj heq.symm)))
  · exact List.mem_reverse.mpr (List.mem_map.mpr ⟨b, hb, rfl⟩)

/-! ### the step equation -/

def cfgOf (σ : World) (parent : Option String) (names : List (Option String)) : EvalCfg := ⟨σ, names, parent⟩

theorem evalJoinForm_simple (cfg : EvalCfg) (k : Nat) (env : Env) (form : JoinForm) (elems : List Elem)
    (h : form = .tuple ∨ form = .awaitCat ∨ ∃ j, form = .futJoin j false) :
    evalJoinForm cfg k env form elems = (evalElems cfg k env elems).andThen fun vs => M.ret (mkTuple vs) := by
  rcases h with rfl | rfl | ⟨j, rfl⟩ <;> rfl

section
variable {c : Ctx} {names : List (Option String)} (ok : CtxOK c names) (σ : World) (parent : Option String)
include ok

def stepJunk (c : Ctx) (sc : SpecCfg) (k : Nat) (capss : List (List Value)) : Env :=
  capEnv (fun b => sc.acts b k) (c.activeIdx k) capss ++ tbsEnv c k

omit ok in
theorem stepJunk_scratch (c : Ctx) (sc : SpecCfg) (k : Nat) (capss : List (List Value)) :
    ∀ xv ∈ stepJunk c sc k capss, xv.1.isScratch = true := by
  intro xv hxv
  rcases List.mem_append.mp hxv with h | h
  · exact capEnv_scratch _ _ _ xv h
  · exact tbsEnv_scratch c k xv h

theorem evalStep_caps (k : Nat) (env : Env) (vals : List (Option Value)) (hinv : Inv c names k env vals)
    (s : StepCode) (hs : genStep c k = .ok s) :
    evalStep (cfgOf σ parent names) env s =
      (specCapsAll (specCfgOf σ parent names c) k (visibleSpec names vals) (c.activeIdx k)).andThen fun capss =>
      (evalJoinForm (cfgOf σ parent names) k (stepJunk c (specCfgOf σ parent names c) k capss ++ env) s.form s.elems).andThen
        fun sr =>
      match s.spawnJoin with
      | none => M.ret (stepJunk c (specCfgOf σ parent names c) k capss ++ env, sr)
      | some ps => (evalJoins k sr (s.elems.map Elem.b) ps).andThen fun vs' =>
          M.ret (stepJunk c (specCfgOf σ parent names c) k capss ++ env, mkTuple vs') := by
  obtain ⟨hk, hdefs, -, -, htbs, -⟩ := genStep_shape ok σ parent k s hs
  have hvisb : visible names (tbsEnv c k ++ env) = visibleSpec names vals := by
    rw [visible_append_internal _ _ _ (fun xv h => Var.internal_of_scratch (tbsEnv_scratch c k xv h)), visible_eq ok hinv]
  have henvb : (s.tbs.map fun (ba : Nat × Nat) => (Var.j ba.1, Value.builder ba.2)).reverse = tbsEnv c k := by
    rw [htbs]; rfl
  unfold evalStep
  simp only [henvb, hk, hdefs]
  rw [evalDefs_all (cfgOf σ parent names) (specCfgOf σ parent names c) rfl k
    (fun b => (specCfgOf σ parent names c).acts b k) (fun _ => rfl)]
  simp only [cfgOf, hvisb, M.andThen_assoc, M.ret_andThen, stepJunk, List.append_assoc]
  refine congrArg _ (funext fun capss => congrArg _ (funext fun sr => ?_))
  cases s.spawnJoin <;> rfl

theorem stepElems_eq (k : Nat) (env : Env) (vals : List (Option Value)) (hinv : Inv c names k env vals)
    (s : StepCode) (hs : genStep c k = .ok s)
    (capss : List (List Value))
    (hcapss : (specCapsAll (specCfgOf σ parent names c) k (visibleSpec names vals) (c.activeIdx k)).res = .ok capss) :
    s.elems.map (evalElem (cfgOf σ parent names) k (stepJunk c (specCfgOf σ parent names c) k capss ++ env)) =
      ((c.activeIdx k).zip capss).map
        (if c.kind.threads && decide (c.activeCount k ≥ 2) then forkM (specCfgOf σ parent names c) k vals (visibleSpec names vals)
         else chainM (specCfgOf σ parent names c) k vals (visibleSpec names vals)) := by
  obtain ⟨-, -, helems, -, -, -⟩ := genStep_shape ok σ parent k s hs
  obtain ⟨hl, hlens⟩ := specCapsAll_length _ _ _ _ _ hcapss
  have hjunk := stepJunk_scratch c (specCfgOf σ parent names c) k capss
  have hinv' := hinv.scratch ok _ hjunk
  have hvis' := visible_eq ok hinv'
  have hprev : ∀ b ∈ c.activeIdx k, usesPrev ((specCfgOf σ parent names c).acts b k) = true →
      ∃ v, (stepJunk c (specCfgOf σ parent names c) k capss ++ env).lookup (c.varOf b) = some v ∧
        (vals[b]?).join = some v := by
    intro b hb hu
    have hbn := activeIdx_lt k b hb
    -- a chain that continues from a previous value is not in step 0, and from step 1 on every branch holds one (`hinv.bound`)
    have hk0 : 0 < k := by
      rcases Nat.eq_zero_or_pos k with h0 | h0
      · subst h0; rw [acts_zero_noPrev ok σ parent b hb] at hu; cases hu
      · exact h0
    obtain ⟨v, hv⟩ := Option.isSome_iff_exists.mp (hinv.bound hk0 b hbn)
    exact ⟨v, by rw [hinv'.agree b hbn, hv], hv⟩
  have hcaps : ∀ pos (h : pos < (c.activeIdx k).length),
      lookupAll (stepJunk c (specCfgOf σ parent names c) k capss ++ env)
        (capVars (c.activeIdx k)[pos] ((specCfgOf σ parent names c).acts (c.activeIdx k)[pos] k))
        = some (capss[pos]'(hl ▸ h)) := by
    intro pos h
    rw [stepJunk, List.append_assoc]
    apply lookupAll_capEnv (fun b => (specCfgOf σ parent names c).acts b k) _ _ _ (activeIdx_nodup k) hl
    intro p hp
    rw [hlens p hp]
    have := congrArg List.length
      (capDefsOf_keys (c.activeIdx k)[p] 0 ((specCfgOf σ parent names c).acts (c.activeIdx k)[p] k) 0)
    simpa [capVars, capKeys] using this
  obtain ⟨hseq, hfork⟩ := map_evalElem (cfgOf σ parent names) (specCfgOf σ parent names c) rfl rfl k vals _ c.varOf
    (c.activeIdx k) capss s.elems (c.multi k && c.lazy) (c.wrapOf k) helems hprev hl hcaps
  rw [show visible (cfgOf σ parent names).names _ = visibleSpec names vals from hvis'] at hseq hfork
  by_cases hthr : (c.kind.threads && decide (c.activeCount k ≥ 2)) = true
  · rw [if_pos hthr]
    obtain ⟨hsp, h2⟩ : c.kind.threads = true ∧ 2 ≤ c.activeCount k := by simpa using hthr
    obtain ⟨hspn, hna⟩ : c.kind.isSpawn = true ∧ c.kind.isAsync = false := by simpa [Kind.threads] using hsp
    have hmulti : c.multi k = true := by simp [Ctx.multi]; omega
    refine hfork (by rw [hmulti, ok.lazyDefault, hsp]; rfl) (fun b => by simp [Ctx.wrapOf, hmulti, hspn, hna]) fun b hb => ?_
    rw [stepJunk, List.append_assoc, List.lookup_append, lookup_eq_none_of_not_mem, Option.none_or]
    · have : tbsEnv c k = ((c.activeIdx k).map fun b => (Var.j b, Value.builder b)).reverse := by
        simp only [tbsEnv, hthr, if_true, List.map_map]
        rfl
      rw [this]
      exact lookup_builders _ (activeIdx_nodup k) env b hb
    -- the captures lie in front of the builders, but none of them is a `__j`
    · intro hm
      obtain ⟨xv, hxv, hx⟩ := List.mem_map.mp hm
      obtain ⟨b', _, e, i, h⟩ := capEnv_keys _ _ _ xv hxv
      rw [h] at hx
      cases hx
  · rw [if_neg hthr]
    -- a thread-spawning macro with a single active branch spawns nothing, and nothing is lazy then
    have hnm : c.kind.threads = true → c.multi k = false := by
      intro hsp
      have : ¬ 2 ≤ c.activeCount k := by simpa [hsp] using hthr
      simp [Ctx.multi]; omega
    refine hseq ?_ fun b => ?_
    · rw [ok.lazyDefault]
      cases hsp : c.kind.threads with
      | false => exact Bool.and_false _
      | true => rw [hnm hsp]; rfl
    · unfold Ctx.wrapOf
      by_cases hm : (c.multi k && c.kind.isSpawn) = true
      · rw [if_pos hm]
        cases ha : c.kind.isAsync with
        -- async spawn: a tokio task, which `evalElem` runs like the bare chain (canonical schedule)
        | true => exact Or.inr rfl
        | false =>
          obtain ⟨h1, h2⟩ : c.multi k = true ∧ c.kind.isSpawn = true := by simpa using hm
          rw [hnm (by simp [Kind.threads, h2, ha])] at h1; cases h1
      · rw [if_neg hm]; exact Or.inl rfl

/-- Stated with the continuation `K`, so that rewriting with it leaves what follows the step alone. -/
theorem evalStep_eq (k : Nat) (env : Env) (vals : List (Option Value)) (hinv : Inv c names k env vals)
    (s : StepCode) (hs : genStep c k = .ok s)
    (hnt : c.kind.isAsync = true → c.kind.isTry = false) {β : Type} (K : Env × Value → M β) :
    (evalStep (cfgOf σ parent names) env s).andThen K =
      (specCapsAll (specCfgOf σ parent names c) k (visibleSpec names vals) (c.activeIdx k)).andThen fun capss =>
      (specChains (specCfgOf σ parent names c) k vals (visibleSpec names vals) (c.activeIdx k) capss).andThen fun news =>
      K (stepJunk c (specCfgOf σ parent names c) k capss ++ env, mkTuple news) := by
  obtain ⟨-, -, helems, hform, -, hsj⟩ := genStep_shape ok σ parent k s hs
  -- `try_join!` excluded (`hnt`), every join form evaluates all its operands and tuples their values
  have hformS : s.form = .tuple ∨ s.form = .awaitCat ∨ ∃ j, s.form = .futJoin j false := by
    by_cases ha : c.kind.isAsync = true
    · have := hform.2 ha
      rw [hnt ha] at this
      exact Or.inr (this.imp (·.2) id)
    · exact Or.inl (hform.1 (by simpa using ha))
  rw [evalStep_caps ok σ parent k env vals hinv s hs, M.andThen_assoc]
  refine M.andThen_congr _ _ _ fun capss hcapss => ?_
  obtain ⟨hl, -⟩ := specCapsAll_length _ _ _ _ _ hcapss
  have hcount := activeCount_eq ok k
  rw [M.andThen_assoc, evalJoinForm_simple _ _ _ _ _ hformS, evalElems_eq_seq, stepElems_eq ok σ parent k env vals hinv s hs capss hcapss,
    hsj, specChains]
  have hthr' : ((specCfgOf σ parent names c).kind.threads && decide ((c.activeIdx k).length > 1)) =
      (c.kind.threads && decide (c.activeCount k ≥ 2)) := by
    rw [hcount]; rfl
  rw [hthr']
  by_cases hthr : (c.kind.threads && decide (c.activeCount k ≥ 2)) = true
  · simp only [hthr, if_true, seq_forkM, specChainsFork_eq, M.andThen_assoc, M.ret_andThen]
    -- both sides: forks, joins, `K`; only the joins differ: `evalJoins k (mkTuple handles) _ (idxProjs c k)` / `specJoins k outs`
    -- `outs` occurs three times (fork events, handles, `specJoins`); named, it is the list `evalJoins_spec` is stated for
    generalize hall : forkOuts (specCfgOf σ parent names c) k vals (visibleSpec names vals) ((c.activeIdx k).zip capss) = all
    have hlen : all.length = (c.activeIdx k).length := by rw [← hall]; simp [forkOuts, hl]
    have hb : s.elems.map Elem.b = all.map Prod.fst := by
      have := congrArg (List.map (fun (t : Nat × Bool × ElemWrap × Var × List Member) => t.1)) helems
      rw [← hall, forkOuts_fst, List.map_fst_zip (by omega)]
      simpa [Elem.sem, List.map_map, Function.comp_def] using this
    -- threads are spawned for two branches or more only: `__srK` is a real tuple, which the `.i` projections need
    have h2 : 2 ≤ (all.map fun bo => handleOf bo.2).length := by
      obtain ⟨-, this⟩ : c.kind.threads = true ∧ 2 ≤ c.activeCount k := by simpa using hthr
      rw [List.length_map, hlen, ← hcount]; exact this
    have hproj : idxProjs c k = (List.range' 0 (all.length - 0)).map Proj.idx := by
      rw [idxProjs_multi (by rw [List.length_map, hlen, ← hcount] at h2; omega), Nat.sub_zero, hlen, List.range_eq_range']
    have hjoin := evalJoins_spec k _ h2 all rfl 0
    -- offset 0: `all.drop 0` and `range' 0 (len - 0)` are turned into the goal's `s.elems.map Elem.b` and `idxProjs c k`
    rw [List.drop_zero, ← hb, ← hproj] at hjoin
    rw [hjoin]
  · simp only [hthr, Bool.false_eq_true, if_false, specChainsSeq_eq_seq, M.andThen_assoc, M.ret_andThen]

end

end JoinModel
