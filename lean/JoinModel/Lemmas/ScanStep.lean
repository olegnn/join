/-
  One iteration of the scan loop of `parse_until` (parse/utils.rs), in three lemmas: it stops, it collects one more token
  tree, or it meets the end of the input; then `scan_spec`, what a whole scan returns, with the vocabulary the specification
  theorems of Lemmas/ParseSpec are written in: `Ends`, `NoFuel`, and `DropT a b` (`b` is `a` minus some top-level `~`).
-/
import JoinModel.Parse
import JoinModel.Lemmas.DetFacts
namespace JoinModel

def stripTilde (input : Toks) : Toks :=
  if Tables.deferredDet.check input then input.drop Tables.deferredDet.len else input

def stopHere (o : Oracle) (syn : Syn) (allowEmpty : Bool) (acc input : Toks) : Bool :=
  (firstMatch (stripTilde input)).isSome && ((acc.isEmpty && allowEmpty) || o.valid syn acc)

theorem scan_cons (o : Oracle) (syn : Syn) (ae : Bool) (fuel : Nat) (acc input : Toks) (d0 : Bool) (hne : input ≠ []) :
    scan o syn ae (fuel + 1) acc input d0 =
      if stopHere o syn ae acc input then
        .ok (acc, firstMatch (stripTilde input), Tables.deferredDet.check input, stripTilde input)
      else match stripTilde input with
        | [] => .error (.syn "unexpected end of input")
        | t :: rest => scan o syn ae fuel (acc ++ [t]) rest (Tables.deferredDet.check input) := by
  cases input with
  | nil => exact absurd rfl hne
  | cons t r =>
    delta stopHere stripTilde
    simp only [scan]
    cases firstMatch (if Tables.deferredDet.check (t :: r) = true then List.drop Tables.deferredDet.len (t :: r) else t :: r) <;> rfl

theorem scan_stop (o : Oracle) (syn : Syn) (ae : Bool) (fuel : Nat) (acc input : Toks) (d0 : Bool)
    (hne : input ≠ []) (h : stopHere o syn ae acc input = true) :
    scan o syn ae (fuel + 1) acc input d0 =
      .ok (acc, firstMatch (stripTilde input), Tables.deferredDet.check input, stripTilde input) := by
  rw [scan_cons o syn ae fuel acc input d0 hne, if_pos h]

/-- inside a not yet complete operand nothing splits: the next token tree is collected, whatever it looks like -/
theorem scan_continue (o : Oracle) (syn : Syn) (ae : Bool) (fuel : Nat) (acc input : Toks) (d0 : Bool) (t : TT) (rest : Toks)
    (hne : input ≠ []) (h : stopHere o syn ae acc input = false) (hs : stripTilde input = t :: rest) :
    scan o syn ae (fuel + 1) acc input d0 = scan o syn ae fuel (acc ++ [t]) rest (Tables.deferredDet.check input) := by
  rw [scan_cons o syn ae fuel acc input d0 hne, h, hs]; rfl

/-- a `~` at the very end of the input: the real parser reports "unexpected end of input" -/
theorem scan_eof (o : Oracle) (syn : Syn) (ae : Bool) (fuel : Nat) (acc input : Toks) (d0 : Bool)
    (hne : input ≠ []) (h : stopHere o syn ae acc input = false) (hs : stripTilde input = []) :
    scan o syn ae (fuel + 1) acc input d0 = .error (.syn "unexpected end of input") := by
  rw [scan_cons o syn ae fuel acc input d0 hne, h, hs]; rfl

/-! ### what a scan returns -/

def Ends {ε α : Type} (r : Except ε α) (E : ε → Prop) (Q : α → Prop) : Prop :=
  match r with
  | .error e => E e
  | .ok a => Q a

theorem Ends.of_error {ε α : Type} {r : Except ε α} {E : ε → Prop} {Q : α → Prop} (h : Ends r E Q) {e : ε}
    (hr : r = .error e) : E e := by subst hr; exact h

theorem Ends.of_ok {ε α : Type} {r : Except ε α} {E : ε → Prop} {Q : α → Prop} (h : Ends r E Q) {a : α}
    (hr : r = .ok a) : Q a := by subst hr; exact h

theorem Ends.mono {ε α : Type} {r : Except ε α} {E E' : ε → Prop} {Q Q' : α → Prop} (h : Ends r E Q)
    (hE : ∀ e, E e → E' e) (hQ : ∀ a, Q a → Q' a) : Ends r E' Q' := by
  cases r with
  | error e => exact hE e h
  | ok a => exact hQ a h

def NoFuel (e : ParseErr) : Prop := e ≠ .syn "fuel"

theorem stripTilde_suffix (input : Toks) : stripTilde input <:+ input := by
  unfold stripTilde
  split
  · exact List.drop_suffix _ _
  · exact List.suffix_refl _

namespace Props.C14

theorem deferred_iff (ts : Toks) : Tables.deferredDet.check ts = true ↔ ∃ j r, ts = .punct '~' j :: r := by
  rw [show Tables.deferredDet.check ts = (peekPunct ['~'] ts || false) from rfl, Bool.or_false, peekPunct_one_iff]
  exact and_iff_right (by decide)

theorem deferred_len : Tables.deferredDet.len = 1 := rfl

inductive DropT : Toks → Toks → Prop
  | nil : DropT [] []
  | keep (t : TT) {a b : Toks} : DropT a b → DropT (t :: a) (t :: b)
  | drop (j : Bool) {a b : Toks} : DropT a b → DropT (.punct '~' j :: a) b

theorem DropT.refl (a : Toks) : DropT a a := by
  induction a with
  | nil => exact .nil
  | cons t a ih => exact .keep t ih

theorem DropT.append_left (p : Toks) {a b : Toks} (h : DropT a b) : DropT (p ++ a) (p ++ b) := by
  induction p with
  | nil => exact h
  | cons t p ih => exact .keep t ih

theorem dropT_strip (input : Toks) : DropT input (stripTilde input) := by
  unfold stripTilde
  split
  next h =>
    obtain ⟨j, r, rfl⟩ := (deferred_iff input).1 h
    simp only [deferred_len, List.drop_succ_cons, List.drop_zero]
    exact .drop j (DropT.refl r)
  next => exact DropT.refl _

theorem DropT.trans {a b c : Toks} (h1 : DropT a b) (h2 : DropT b c) : DropT a c := by
  induction h1 generalizing c with
  | nil => exact h2
  | keep t _ ih =>
    cases h2 with
    | keep _ h => exact .keep t (ih h)
    | drop j h => exact .drop j (ih h)
  | drop j _ ih => exact .drop j (ih h2)

theorem DropT.length_le {a b : Toks} (h : DropT a b) : b.length ≤ a.length := by
  induction h with
  | nil => exact Nat.le_refl _
  | keep _ _ ih => simp only [List.length_cons]; omega
  | drop _ _ ih => simp only [List.length_cons]; omega

end Props.C14
open Props.C14

/-- `p` is the input as it stood at the iteration that stopped: `g` is the first match there behind a possible `~`, and `d`
    says whether that `~` was there. -/
theorem scan_spec (o : Oracle) (syn : Syn) (ae : Bool) : ∀ (fuel : Nat) (acc input : Toks) (d0 : Bool),
    Ends (scan o syn ae fuel acc input d0) (fun e => input.length < fuel → NoFuel e) fun (toks, nx, d, input') =>
      ∃ col, toks = acc ++ col ∧ DropT input (col ++ input') ∧ (nx = none → input' = []) ∧
        ∀ g, nx = some g → firstMatch input' = some g ∧ ((toks.isEmpty && ae) || o.valid syn toks) = true ∧
          ∃ p, p <:+ input ∧ d = Tables.deferredDet.check p ∧ input' = stripTilde p := by
  intro fuel
  induction fuel with
  | zero => exact fun _ _ _ h => (by omega)
  | succ fuel ih =>
    intro acc input d0
    by_cases hne : input = []
    · subst hne
      exact ⟨[], by simp, .nil, fun _ => rfl, fun g hg => (by cases hg)⟩
    -- by the one-iteration lemmas: unfolding `scan` exposes the `let`-bound `match` inside its `if`, which `split` goes for first
    · cases hst : stopHere o syn ae acc input with
      | true =>
        rw [scan_stop o syn ae fuel acc input d0 hne hst]
        simp only [stopHere, Bool.and_eq_true] at hst
        exact ⟨[], by simp, dropT_strip input, fun hn => by rw [hn] at hst; simp at hst, fun g hg =>
          ⟨hg, hst.2, input, List.suffix_refl _, rfl, rfl⟩⟩
      | false =>
        cases hs : stripTilde input with
        | nil =>
          rw [scan_eof o syn ae fuel acc input d0 hne hst hs]
          exact fun _ => by simp [NoFuel]
        | cons t rest =>
          rw [scan_continue o syn ae fuel acc input d0 t rest hne hst hs]
          have hsuf : t :: rest <:+ input := hs ▸ stripTilde_suffix input
          refine (ih (acc ++ [t]) rest (Tables.deferredDet.check input)).mono
            (fun e he hf => he (by have := hsuf.length_le; simp only [List.length_cons] at this; omega))
            fun ⟨toks, nx, d, input'⟩ ⟨col, hc, h1, h2, h3⟩ => ?_
          refine ⟨t :: col, by simp [hc], (hs ▸ dropT_strip input).trans (.keep t h1), h2, fun g hg => ?_⟩
          obtain ⟨a, b, p, hp, c⟩ := h3 g hg
          exact ⟨a, b, p, hp.trans ((List.suffix_cons t rest).trans hsuf), c⟩

end JoinModel
