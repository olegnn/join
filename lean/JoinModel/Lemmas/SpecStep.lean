/-
  The reference loop as the iteration of one step: `specStep` (captures, then chains), `specTail` (what follows a step),
  `specLoop_eq`, and the three ways of reasoning along the loop without unfolding it again: `specLoop_trace_induct`
  (the trace of any run), `specLoop_ok_induct` (a run that returns), `specLoop_congr` (two loops side by side).
-/
import JoinModel.Spec
import JoinModel.Lemmas.Basic
namespace JoinModel

def forkOuts (sc : SpecCfg) (k : Nat) (vals : List (Option Value)) (vis : List (String × Value))
    (bcs : List (Nat × List Value)) : List (Nat × ChainOut) :=
  bcs.map fun (b, caps) => (b, sc.σ.chain b k (specPrev sc vals b k) caps vis)

theorem specChainsFork_eq (sc : SpecCfg) (k : Nat) (vals : List (Option Value)) (vis : List (String × Value))
    (bcs : List (Nat × List Value)) :
    specChainsFork sc k vals vis bcs =
      (M.tell ((forkOuts sc k vals vis bcs).map fun bo => .fork bo.1 k (threadName sc.parent bo.1) (chainEvents bo.1 k bo.2))).andThen
        fun _ => specJoins k (forkOuts sc k vals vis bcs) := rfl

def specChains (sc : SpecCfg) (k : Nat) (vals : List (Option Value)) (vis : List (String × Value))
    (act : List Nat) (caps : List (List Value)) : M (List Value) :=
  if sc.kind.threads && decide (act.length > 1) then specChainsFork sc k vals vis (act.zip caps)
  else specChainsSeq sc k vals vis (act.zip caps)

def specStep (sc : SpecCfg) (k : Nat) (vals : List (Option Value)) : M (List Value) :=
  (specCapsAll sc k (visibleSpec sc.names vals) (sc.active k)).andThen fun caps =>
  specChains sc k vals (visibleSpec sc.names vals) (sc.active k) caps

def specTail (sc : SpecCfg) (rem k : Nat) (vals : List (Option Value)) (news : List Value) : M Fin :=
  let vals' := updVals vals (sc.active k) news
  match rem with
  | 0 =>
    match allSome vals' with
    | none => M.stuck
    | some finals =>
      if sc.kind.isTry then
        match firstFail finals with
        | some v => M.ret (.failed v)
        | none => M.ret (.vals (finals.filterMap payload?))
      else M.ret (.vals finals)
  | rem' + 1 =>
    if sc.kind.isTry then
      match firstFail news with
      | some v => M.ret (.failed v)
      | none => specLoop sc rem' (k + 1) vals'
    else specLoop sc rem' (k + 1) vals'

theorem specLoop_eq (sc : SpecCfg) (rem k : Nat) (vals : List (Option Value)) :
    specLoop sc rem k vals = (specStep sc k vals).andThen (specTail sc rem k vals) := by
  rw [specLoop, specStep, M.andThen_assoc]
  cases rem <;> rfl

theorem specTail_zero_trace (sc : SpecCfg) (k : Nat) (vals : List (Option Value)) (news : List Value) :
    (specTail sc 0 k vals news).trace = [] := by
  simp only [specTail]
  split
  · rfl
  · split
    · split <;> rfl
    · rfl

theorem specTail_zero_ok (sc : SpecCfg) (k : Nat) (vals : List (Option Value)) (news : List Value) (f : Fin)
    (h : (specTail sc 0 k vals news).res = .ok f) :
    ∃ finals, allSome (updVals vals (sc.active k) news) = some finals ∧
      f = if sc.kind.isTry then
            match firstFail finals with
            | some v => .failed v
            | none => .vals (finals.filterMap payload?)
          else .vals finals := by
  simp only [specTail] at h
  split at h
  · cases h
  · rename_i finals hall
    refine ⟨finals, hall, ?_⟩
    split at h
    · split at h <;> simp_all [M.ret]
    · simp_all [M.ret]

theorem specTail_succ (sc : SpecCfg) (rem k : Nat) (vals : List (Option Value)) (news : List Value) :
    (∃ v, sc.kind.isTry = true ∧ firstFail news = some v ∧ specTail sc (rem + 1) k vals news = M.ret (.failed v)) ∨
    ((sc.kind.isTry = true → firstFail news = none) ∧
      specTail sc (rem + 1) k vals news = specLoop sc rem (k + 1) (updVals vals (sc.active k) news)) := by
  simp only [specTail]
  split
  · split
    · exact Or.inl ⟨_, ‹_›, ‹_›, rfl⟩
    · exact Or.inr ⟨fun _ => ‹_›, rfl⟩
  · exact Or.inr ⟨fun h => absurd h ‹_›, rfl⟩

/-- `last` is asked for every `rem`: a run ends at any step that does not return, or where a try macro sees a failure -/
theorem specLoop_trace_induct (sc : SpecCfg) {Q : Nat → Nat → List MEv → Prop}
    (last : ∀ rem k vals, Q rem k (specStep sc k vals).trace)
    (cons : ∀ rem k vals news tl, (specStep sc k vals).res = .ok news → Q rem (k + 1) tl →
      Q (rem + 1) k ((specStep sc k vals).trace ++ tl))
    (rem k : Nat) (vals : List (Option Value)) : Q rem k (specLoop sc rem k vals).trace := by
  induction rem generalizing k vals with
  | zero =>
    rw [specLoop_eq]
    rcases M.andThen_cases (specStep sc k vals) (specTail sc 0 k vals) with ⟨news, -, ht, -⟩ | ⟨-, ht, -⟩ <;> rw [ht]
    · rw [specTail_zero_trace, List.append_nil]; exact last 0 k vals
    · exact last 0 k vals
  | succ rem ih =>
    rw [specLoop_eq]
    rcases M.andThen_cases (specStep sc k vals) (specTail sc (rem + 1) k vals) with ⟨news, hn, ht, -⟩ | ⟨-, ht, -⟩ <;> rw [ht]
    · rcases specTail_succ sc rem k vals news with ⟨v, -, -, h⟩ | ⟨-, h⟩ <;> rw [h]
      · rw [M.ret, List.append_nil]; exact last _ k vals
      · exact cons rem k vals news _ hn (ih _ _)
    · exact last _ k vals

theorem specLoop_ok_induct (sc : SpecCfg) {Q : Nat → Nat → List (Option Value) → List MEv → Fin → Prop}
    (final : ∀ k vals news f, (specStep sc k vals).res = .ok news → (specTail sc 0 k vals news).res = .ok f →
      Q 0 k vals (specStep sc k vals).trace f)
    (stop : ∀ rem k vals news v, (specStep sc k vals).res = .ok news → sc.kind.isTry = true →
      firstFail news = some v → Q (rem + 1) k vals (specStep sc k vals).trace (.failed v))
    (cons : ∀ rem k vals news tl f, (specStep sc k vals).res = .ok news →
      (sc.kind.isTry = true → firstFail news = none) → Q rem (k + 1) (updVals vals (sc.active k) news) tl f →
      Q (rem + 1) k vals ((specStep sc k vals).trace ++ tl) f)
    (rem k : Nat) (vals : List (Option Value)) (f : Fin) (h : (specLoop sc rem k vals).res = .ok f) :
    Q rem k vals (specLoop sc rem k vals).trace f := by
  induction rem generalizing k vals with
  | zero =>
    rw [specLoop_eq] at h ⊢
    obtain ⟨news, hn, h⟩ := M.andThen_res_ok h
    rw [(M.andThen_trace_ok hn).1, specTail_zero_trace, List.append_nil]
    exact final k vals news f hn h
  | succ rem ih =>
    rw [specLoop_eq] at h ⊢
    obtain ⟨news, hn, h⟩ := M.andThen_res_ok h
    rw [(M.andThen_trace_ok hn).1]
    rcases specTail_succ sc rem k vals news with ⟨v, htry, hv, ht⟩ | ⟨hnone, ht⟩ <;> rw [ht] at h ⊢
    · cases h
      rw [M.ret, List.append_nil]
      exact stop rem k vals news v hn htry hv
    · exact cons rem k vals news _ f hn hnone (ih _ _ h)

theorem specLoop_congr {c c' : SpecCfg} {R : M (List Value) → M (List Value) → Prop} {S : M Fin → M Fin → Prop}
    (hbind : ∀ m m' f f', R m m' → (∀ a, S (f a) (f' a)) → S (m.andThen f) (m'.andThen f')) (hrefl : ∀ m, S m m)
    (htry : c'.kind.isTry = c.kind.isTry) (hact : ∀ k, c'.active k = c.active k)
    (hstep : ∀ k vals, R (specStep c k vals) (specStep c' k vals)) (rem k : Nat) (vals : List (Option Value)) :
    S (specLoop c rem k vals) (specLoop c' rem k vals) := by
  induction rem generalizing k vals with
  | zero =>
    rw [specLoop_eq, specLoop_eq]
    refine hbind _ _ _ _ (hstep k vals) fun news => ?_
    simp only [specTail, htry, hact]
    exact hrefl _
  | succ rem ih =>
    rw [specLoop_eq, specLoop_eq]
    refine hbind _ _ _ _ (hstep k vals) fun news => ?_
    simp only [specTail, htry, hact]
    split
    · split
      · exact hrefl _
      · exact ih _ _
    · exact ih _ _

end JoinModel
