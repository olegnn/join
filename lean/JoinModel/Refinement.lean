/-
  The central theorem for the sequential and thread-spawning macros and — under the canonical schedule — the non-try
  async macros:  `gen p kind = ok code → evalCode σ parent code = specRun σ parent p kind`,  events and results, panics
  included, for every parsed program that `Supported` admits (no custom joiner, no `lazy_branches`, default transposition,
  distinct `let` names), every user world and calling thread.  `refines_gen` is the part of the argument around
  the step loop (handler definition, handler call) for any reference loop; `sync_refines` puts `evalSteps_eq` into it.
-/
import JoinModel.Lemmas.LoopRefine
namespace JoinModel

/-- What every refinement theorem assumes about the program. -/
structure SupportedBase (p : Input) : Prop where
  noJoiner : p.joiner = none
  noLazy : p.lazy = none
  /-- what the parser guarantees: a branch starts with its initial value -/
  firstInitial : ∀ b ∈ p.branches, ∃ m ms, b.members = m :: ms ∧ m.deferred = false ∧ m.ctor = .initial
  /-- `let` names are pairwise distinct (rustc rejects `let (a, a) = …`) -/
  namesNodup : (p.branches.filterMap fun b => b.pat.map (·.ident)).Nodup

/-- The inputs `sync_refines` speaks about. -/
structure Supported (p : Input) (kind : Kind) : Prop extends SupportedBase p where
  /-- the async try macros have their own theorem (`async_try_refines`): their `try_join!` returns as soon as one
      operand fails -/
  asyncNotTry : kind.isAsync = true → kind.isTry = false
  transposeDefault : p.transpose ≠ some false

def namesOf (p : Input) : List (Option String) := p.branches.map fun b => b.pat.map (·.ident)

/-! ### the context built by `mkCtx` is well-formed -/

theorem branchVars_mem (bs : List Branch) (i0 : Nat) (x : Var)
    (hx : x ∈ (bs.zipIdx i0).map fun (bi : Branch × Nat) => (branchPat bi.2 bi.1).var) :
    (∃ s, s ∈ bs.filterMap (fun b => b.pat.map (·.ident)) ∧ x = .user s) ∨ (∃ j, i0 ≤ j ∧ x = .r j) := by
  induction bs generalizing i0 with
  | nil => simp at hx
  | cons b bs ih =>
    simp only [List.zipIdx_cons, List.map_cons, List.mem_cons] at hx
    rcases hx with rfl | hx
    · unfold branchPat
      cases hp : b.pat with
      | none => exact Or.inr ⟨i0, Nat.le_refl _, rfl⟩
      | some pt => exact Or.inl ⟨pt.ident, by simp [hp], rfl⟩
    · rcases ih (i0 + 1) hx with ⟨s, hs, rfl⟩ | ⟨j, hj, rfl⟩
      · refine Or.inl ⟨s, ?_, rfl⟩
        simp only [List.filterMap_cons]
        cases b.pat.map (·.ident) with
        | none => exact hs
        | some _ => exact List.mem_cons_of_mem _ hs
      · exact Or.inr ⟨j, by omega, rfl⟩

theorem branchVars_nodup (bs : List Branch) (i0 : Nat)
    (h : (bs.filterMap fun b => b.pat.map (·.ident)).Nodup) :
    ((bs.zipIdx i0).map fun (bi : Branch × Nat) => (branchPat bi.2 bi.1).var).Nodup := by
  induction bs generalizing i0 with
  | nil => simp
  | cons b bs ih =>
    simp only [List.zipIdx_cons, List.map_cons, List.nodup_cons]
    have hrest : (bs.filterMap fun b => b.pat.map (·.ident)).Nodup := by
      simp only [List.filterMap_cons] at h
      cases hb : b.pat.map (·.ident) with
      | none => simpa [hb] using h
      | some s => rw [hb] at h; exact (List.nodup_cons.mp h).2
    refine ⟨?_, ih (i0 + 1) hrest⟩
    intro hmem
    -- the tail's variables are `let` names of the tail or `__r{j}` with `j > i0`: a name clashes by `h`, a default by its index
    rcases branchVars_mem bs (i0 + 1) _ hmem with ⟨s, hs, heq⟩ | ⟨j, hj, heq⟩
    · unfold branchPat at heq
      cases hp : b.pat with
      | none => simp [hp] at heq
      | some pt =>
        simp only [hp, Var.user.injEq] at heq
        simp only [List.filterMap_cons, hp, Option.map_some] at h
        exact (List.nodup_cons.mp h).1 (heq ▸ hs)
    · unfold branchPat at heq
      cases hp : b.pat with
      | none => simp only [hp, Var.r.injEq] at heq; omega
      | some pt => simp [hp] at heq

theorem mkCtx_ok {p : Input} {kind : Kind} (hs : SupportedBase p) {c : Ctx} (h : mkCtx p kind = .ok c) :
    CtxOK c (namesOf p) := by
  have hc := mkCtx_inv h
  -- a first member that is not deferred puts no empty group in front: the source of `groupsNonempty` and `firstInitial` below
  have hmem : ∀ ch ∈ c.chains, ∃ m ms, ch = splitSteps (m :: ms) ∧ m.deferred = false ∧ m.ctor = .initial := by
    intro ch hch
    rw [hc.chains] at hch
    obtain ⟨b, hb, rfl⟩ := List.mem_map.mp hch
    obtain ⟨m, ms, hm, hd, hi⟩ := hs.firstInitial b hb
    exact ⟨m, ms, by rw [hm], hd, hi⟩
  exact {
    noJoiner := hc.joiner.trans hs.noJoiner
    lazyDefault := by rw [hc.lazy, hs.noLazy, hc.kind]; rfl
    nEq := by rw [hc.n, hc.chains, List.length_map]
    depthsEq := hc.depths
    patsLen := by rw [hc.pats, hc.n]; simp
    namesLen := by rw [hc.n, namesOf, List.length_map]
    varsNodup := by
      rw [Ctx.vars, hc.pats, List.map_map]
      exact branchVars_nodup p.branches 0 hs.namesNodup
    varForm := fun i hi => by
      rw [hc.n] at hi
      have hz : (p.branches.zipIdx 0)[i]? = some (p.branches[i], i) := by
        rw [List.getElem?_zipIdx]; simp [hi]
      simp only [Ctx.varOf, hc.pats, namesOf, List.getElem?_map, List.getElem?_eq_getElem hi, hz, Option.map_some,
        Option.getD_some]
      unfold branchPat
      cases p.branches[i].pat <;> rfl
    groupsNonempty := fun ch hch g hg => by
      obtain ⟨m, ms, rfl, hd, _⟩ := hmem ch hch
      exact splitSteps_all_nonempty m ms hd g hg
    firstInitial := fun ch hch => by
      obtain ⟨m, ms, rfl, hd, hi⟩ := hmem ch hch
      obtain ⟨g, gs, hg⟩ := splitSteps_head m ms hd
      exact ⟨m, g, gs, hg, hi⟩ }

theorem specCfgOf_mkCtx (σ : World) (parent : Option String) {p : Input} {kind : Kind} {c : Ctx}
    (h : mkCtx p kind = .ok c) :
    specCfgOf σ parent (namesOf p) c = ⟨σ, kind, namesOf p, parent, p.branches.map fun b => splitSteps b.members⟩ := by
  rw [specCfgOf, (mkCtx_inv h).kind, (mkCtx_inv h).chains]

/-! ### the handler -/

theorem evalCall_mkTuple (cfg : EvalCfg) (vs : List Value) :
    evalCall cfg vs.length (mkTuple vs) =
      (M.tell [.ev (.handlerCall vs)]).andThen fun _ => M.lift (cfg.σ.handlerCall vs).toRes := by
  rw [evalCall, untuple_mkTuple]

theorem evalHandle_not_succ (cfg : EvalCfg) (vars : List Var) {v : Value} (hv : v.isSucc = false) :
    evalHandle cfg (.mapH vars) v = M.ret v ∧ evalHandle cfg (.andThenH vars) v = M.ret v := by
  cases v <;> first | exact ⟨rfl, rfl⟩ | cases hv

/-- `hthen`, `hmap`: `then` exists in the non-try macros only, `map` and `and_then` in the try macros only (`mkCtx` rejects
    the rest). -/
theorem evalHandle_genHandle (cfg : EvalCfg) (sc : SpecCfg) (hσ : sc.σ = cfg.σ) (c : Ctx) (h : Option (HKind × Toks))
    (f : Fin) (hf : f.OK c.n sc.kind.isTry)
    (hthen : ∀ t, h = some (.then_, t) → sc.kind.isTry = false)
    (hmap : ∀ k t, h = some (k, t) → k ≠ .then_ → sc.kind.isTry = true) :
    evalHandle cfg (genHandle c h) (encode sc.kind.isTry f) = specHandle sc (h.map Prod.fst) f := by
  cases f with
  | failed v =>
    match h with
    | none => rfl
    | some (.then_, t) => rw [hthen t rfl] at hf; cases hf.2
    | some (.map, t) => exact (evalHandle_not_succ cfg _ hf.1).1
    | some (.andThen, t) => exact (evalHandle_not_succ cfg _ hf.1).2
  | vals vs =>
    have hcall : evalCall cfg ((List.range c.n).map Var.r).length (mkTuple vs) =
        (M.tell [.ev (.handlerCall vs)]).andThen fun _ => M.lift (sc.σ.handlerCall vs).toRes := by
      rw [List.length_map, List.length_range, ← (hf : vs.length = c.n), evalCall_mkTuple, hσ]
    match h with
    | none => rfl
    | some (.then_, t) => rw [hthen t rfl]; exact hcall
    | some (.map, t) => rw [hmap _ t rfl (by simp)]; exact congrArg (fun m => m.andThen fun v => M.ret (Value.succ v)) hcall
    | some (.andThen, t) => rw [hmap _ t rfl (by simp)]; exact hcall

/-! ### the theorem -/

/-- a run around the step loop `loop`: handler definition in front, handler call behind (`specRun` is this for
    `specLoop`, `specRunAT` for `specLoopAT`) -/
def specRunWith (loop : SpecCfg → Nat → Nat → List (Option Value) → M Fin) (σ : World) (parent : Option String)
    (p : Input) (kind : Kind) : M Value :=
  let c : SpecCfg := ⟨σ, kind, namesOf p, parent, p.branches.map fun b => splitSteps b.members⟩
  (match p.handler with
    | some _ => (M.tell [.ev .handlerDef]).andThen fun _ => M.lift σ.handlerDef.toRes
    | none => M.ret ()).andThen fun _ =>
  (loop c (c.maxDepth - 1) 0 (List.replicate c.n none)).andThen fun f =>
  specHandle c (p.handler.map Prod.fst) f

/-- `hloop` is the induction over the steps for the reference loop `loop`, `hpost` what that loop guarantees about its
    outcome; what is left is the handler. -/
theorem refines_gen (σ : World) (parent : Option String) (p : Input) (kind : Kind) (code : Code)
    (hgen : gen p kind = .ok code) (loop : SpecCfg → Nat → Nat → List (Option Value) → M Fin)
    (hloop : ∀ (c : Ctx) (steps : Steps), mkCtx p kind = .ok c → c.maxSteps ≠ 0 →
      genSteps c (c.maxSteps - 1) 0 = .ok steps →
      evalSteps (cfgOf σ parent (namesOf p)) [] steps =
        (loop (specCfgOf σ parent (namesOf p) c) (c.maxSteps - 1) 0 (List.replicate c.n none)).andThen fun f =>
          M.ret (encode kind.isTry f))
    (hpost : ∀ (c : Ctx) (f : Fin), mkCtx p kind = .ok c →
      (loop (specCfgOf σ parent (namesOf p) c) (c.maxSteps - 1) 0 (List.replicate c.n none)).res = .ok f →
      f.OK c.n kind.isTry) :
    evalCode σ parent code = specRunWith loop σ parent p kind := by
  obtain ⟨c, steps, hc, hmax, hsteps, rfl⟩ := gen_inv hgen
  have hi := mkCtx_inv hc
  have hsc := specCfgOf_mkCtx σ parent hc
  have hmd : (specCfgOf σ parent (namesOf p) c).maxDepth = c.maxSteps := by
    rw [hi.maxSteps, hi.depths]; rfl
  have hn : (specCfgOf σ parent (namesOf p) c).n = c.n := by
    rw [SpecCfg.n, specCfgOf, hi.n, hi.chains, List.length_map]
  -- the reference side restated over `specCfgOf … c`, the configuration `hloop` and `hpost` speak of
  rw [specRunWith, ← hsc, hmd, hn, evalCode]
  dsimp only
  rw [show (⟨σ, p.branches.map (fun b => b.pat.map (·.ident)), parent⟩ : EvalCfg) = cfgOf σ parent (namesOf p) from rfl,
    hloop c steps hc hmax hsteps]
  congr 1
  · cases p.handler <;> rfl
  funext _
  rw [M.andThen_assoc]
  refine M.andThen_congr _ _ _ fun f hf => ?_
  have hk : (specCfgOf σ parent (namesOf p) c).kind.isTry = kind.isTry := congrArg Kind.isTry hi.kind
  rw [M.ret_andThen, ← hk]
  -- why `hpost` is needed: `__rs` is destructured into `c.n` values, and `map`/`and_then` skip a failure only as it is not `Ok`
  refine evalHandle_genHandle (cfgOf σ parent (namesOf p)) _ rfl c p.handler f (hk ▸ hpost c f hc hf)
    (fun t ht => ?_) (fun k t ht hne => ?_)
  · cases hkt : kind.isTry with
    | false => exact hk.trans hkt
    | true => rw [hi.thenNotTry (by simp [Input.isThen, ht])] at hkt; cases hkt
  · refine hk.trans (hi.mapTry ?_)
    rw [Input.isMapOrAndThen, ht]
    cases k <;> first | rfl | exact absurd rfl hne

/-- **Refinement** for the sequential, thread-spawning and non-try async macros. -/
theorem sync_refines (σ : World) (parent : Option String) (p : Input) (kind : Kind) (code : Code)
    (hs : Supported p kind) (hgen : gen p kind = .ok code) :
    evalCode σ parent code = specRun σ parent p kind := by
  refine refines_gen σ parent p kind code hgen specLoop (fun c steps hc hmax hsteps => ?_) (fun c f hc h => ?_)
  · have ok := mkCtx_ok hs.toSupportedBase hc
    have hi := mkCtx_inv hc
    have hnt : c.kind.isAsync = true → c.kind.isTry = false := by rw [hi.kind]; exact hs.asyncNotTry
    -- sync try macros transpose unless told not to, which `hs` excludes: links are `failCheck`, the final a `transpose`
    have htrT : c.kind.isTry = true → c.transpose = true := by
      rw [hi.kind, hi.transpose]
      intro htry
      have hna : kind.isAsync = false := by
        cases ha : kind.isAsync with
        | false => rfl
        | true => rw [hs.asyncNotTry ha] at htry; cases htry
      rw [htry, hna]
      cases ht : p.transpose with
      | none => rfl
      | some b =>
        cases b with
        | true => rfl
        | false => exact absurd ht hs.transposeDefault
    have hpos : 0 < c.n := hi.n ▸ List.length_pos_iff.mpr hi.branches
    rw [← hi.kind]
    exact evalSteps_eq ok σ parent hpos hnt htrT (c.maxSteps - 1) 0 [] _ steps Inv.init hsteps
  · have := specLoop_post _ _ _ _ f h
    rwa [List.length_replicate, show (specCfgOf σ parent (namesOf p) c).kind = kind from (mkCtx_inv hc).kind] at this

end JoinModel
